import O2P.Lemmas.PostFlat
import O2P.Lemmas.Domain
import O2P.Lemmas.InferOrAll
import O2P.Lemmas.MissingAndAll
import O2P.Lemmas.FilterDefunctAll
/-!
# C06 — gate inference explains all observed successor sets; exact without mixed OR
The quantifier is finite: `domain n`, every gate tree over the first `n` letters with alternating operators and depth
≤ 3.  The check runs the real `calculate_logic_gates` on the family of every tree of the domain; `soundB` / `exactB`
judge what it returns.  pm4py's miner inside it is not modelled, nor is `calculate_repeats_in_tree`, which runs last;
the repository's post-processing of the miner's tree in between is (`postProcess`), and is proved sound relative to the
miner (`post_process_sound`).
-/
namespace O2P.Gate

/-- what C06's quantifier asks of a tree: gates alternate, depth ≤ 3, the leaves are the first `n` letters, each once -/
def wellformed (n : Nat) (g : Gate) : Bool :=
  alternating g && decide (depth g ≤ 3) && norm (leaves g) == alphabet.take n && (leaves g).length == n

/-- by construction of the enumeration, for every `n` the alphabet allows -/
theorem domain_wellformed_of_le (n : Nat) (hn : n ≤ 6) : (domain n).all (wellformed n) = true := by
  refine List.all_eq_true.mpr fun g hg => ?_
  obtain ⟨op, _, hg⟩ := List.mem_flatMap.mp hg
  obtain ⟨_, halt, hd, hl⟩ := treesWith_spec hg
  have hsorted : (alphabet.take n).Pairwise (· < ·) :=
    List.Pairwise.sublist (List.take_sublist n alphabet) (by decide)
  simp only [wellformed, Bool.and_eq_true, decide_eq_true_eq, beq_iff_eq]
  exact ⟨⟨⟨halt, hd⟩, (norm_eq_iff.mpr fun x => hl.mem_iff).trans (norm_of_sorted hsorted)⟩,
    by rw [hl.length_eq, List.length_take, alphabet]; exact Nat.min_eq_left hn⟩

theorem domain_wellformed :
    (domain 2).all (wellformed 2) = true ∧ (domain 3).all (wellformed 3) = true ∧
    (domain 4).all (wellformed 4) = true ∧ (domain 5).all (wellformed 5) = true :=
  ⟨domain_wellformed_of_le 2 (by decide), domain_wellformed_of_le 3 (by decide),
    domain_wellformed_of_le 4 (by decide), domain_wellformed_of_le 5 (by decide)⟩

/-- the sizes of the domain, and of the exactness sub-class for 4 and 5 events, read off one evaluation -/
theorem domain_survey :
    (domain 2).length = 3 ∧ (domain 3).length = 21 ∧
    ((domain 4).length = 243 ∧ ((domain 4).filter inSubclass).length = 112) ∧
    ((domain 5).length = 2493 ∧ ((domain 5).filter inSubclass).length = 943) := by
  decide +kernel

theorem domain_counts :
    (domain 2).length = 3 ∧ (domain 3).length = 21 ∧ (domain 4).length = 243 ∧ (domain 5).length = 2493 :=
  ⟨domain_survey.1, domain_survey.2.1, domain_survey.2.2.1.1, domain_survey.2.2.2.1⟩

/-- the exactness sub-class: no mixed OR, no AND over two ORs -/
theorem subclass_counts :
    ((domain 4).filter inSubclass).length = 112 ∧ ((domain 5).filter inSubclass).length = 943 :=
  ⟨domain_survey.2.2.1.2, domain_survey.2.2.2.2⟩

theorem soundB_iff (src inf : Gate) : soundB src inf = true ↔ ∀ s ∈ family src, admits inf s = true := by
  unfold soundB; exact List.all_eq_true

theorem exactB_iff (src inf : Gate) :
    exactB src inf = true ↔ (∀ s ∈ family src, admits inf s = true) ∧ (∀ s ∈ family inf, admits src s = true) := by
  unfold exactB
  rw [Bool.and_eq_true, soundB_iff, List.all_eq_true]

/-- a test vector for `family` -/
theorem family_plain :
    family (.node .xor [.leaf "a", .leaf "b"]) = [["a"], ["b"]] ∧
    family (.node .and [.leaf "a", .leaf "b"]) = [["a", "b"]] ∧
    family (.node .or [.leaf "a", .leaf "b"]) = [["a"], ["a", "b"], ["b"]] := by decide +kernel

/-- **C06, the OR inference** (`infer_or_gate_from_node`, `check_is_or_operator`, logic_detection.py 248-352) on the
miner's parallel node with mandatory children `N` and optional branches `X(tau, r)`, `r ∈ R`, no name on both sides;
children abstract (`Child`).  When the test says OR, the new node `O(r…, +(N…))` admits every non-empty observed set the
raw node admits; when not, `+(N…, O(r…))` admits every observed set the raw node admits. -/
theorem or_inference_sound (F : List (List String)) (N R : List Child)
    (hdisj : ∀ x, x ∈ labelsOfC N → x ∉ labelsOfC R) (s : List String) (hs : s ∈ F) (hraw : Raw N R s) :
    (IsOr F N R → NewOr N R s ∨ s = []) ∧ (¬ IsOr F N R → NewAnd N R s) :=
  infer_or_sound_proj F N R hdisj s ⟨s, hs, fun _ _ => Iff.rfl⟩ hraw

/-- the model's executable test `checkIsOr` as a proposition: there is no mandatory child, or some observed set holds a
label of a mandatory child and none of the optional ones (`isOr_child`: that is `IsOr` of the subtrees as children) -/
theorem or_test_spec (sets : List (List String)) (nonTau removed : List PTree) :
    checkIsOr sets nonTau removed = true ↔
      (nonTau = [] ∨ ∃ s ∈ sets, (∃ x ∈ PTree.labelsL nonTau, x ∈ s) ∧ (∀ x ∈ PTree.labelsL removed, x ∉ s)) :=
  checkIsOr_iff sets nonTau removed

/-- both branches are taken: with `{c}` observed the node becomes `O(a, b, c)`, without it `+(c, O(a, b))` -/
example :
    let raw : PTree := .node .and [.leaf "c", .node .xor [.tau, .leaf "a"], .node .xor [.tau, .leaf "b"]]
    (match inferOrNode [["c"], ["a", "c"]] raw with
      | .node .or [.leaf "a", .leaf "b", .leaf "c"] => true
      | _ => false) = true ∧
    (match inferOrNode [["a", "c"], ["a", "b", "c"]] raw with
      | .node .and [.leaf "c", .node .or [.leaf "a", .leaf "b"]] => true
      | _ => false) = true := by decide +kernel

/-- **C06, the OR inference on arbitrary subtrees** (`infer_or_gate_from_node` = `inferOrNode`): the children of the
parallel node are process trees of any kind (`classify` mirrors the code after fix c6e9ec1: a child with another
operator is mandatory).  `PTree.sem` is what a miner's tree produces (tau: the empty set; X: one child; +: all; O: a
non-empty selection).  If the mandatory children produce only non-empty sets and share no label (the "" of a silent leaf
included) with the optional branches, the new node produces every non-empty observed set the raw node produces. -/
theorem or_inference_tree_sound (F : List (List String)) (cs : List PTree)
    (hne : ∀ c ∈ (classify cs).2, ∀ s, c.sem s → s ≠ [])
    (hdisj : ∀ x, x ∈ PTree.labelsL (classify cs).2 →
      x ∉ PTree.labelsL ((classify cs).1.flatMap grandchildrenOf))
    (s : List String) (hs : s ∈ F) (hsne : s ≠ []) (hraw : (PTree.node .and cs).sem s) :
    (inferOrNode F (.node .and cs)).sem s :=
  infer_or_tree_sound_proj F cs hne hdisj s ⟨s, hs, fun _ _ => Iff.rfl⟩ hsne hraw

/-- … and for a parallel node below the top, which has to produce projections of observed sets: `s` agrees with some
observed `s0` on the names of the node -/
theorem or_inference_tree_sound_below (F : List (List String)) (cs : List PTree)
    (hne : ∀ c ∈ (classify cs).2, ∀ s, c.sem s → s ≠ [])
    (hdisj : ∀ x, x ∈ PTree.labelsL (classify cs).2 →
      x ∉ PTree.labelsL ((classify cs).1.flatMap grandchildrenOf))
    (s : List String)
    (hs : ∃ s0 ∈ F, ∀ x, (x ∈ PTree.labelsL (classify cs).2 ∨
      x ∈ PTree.labelsL ((classify cs).1.flatMap grandchildrenOf)) → (x ∈ s0 ↔ x ∈ s))
    (hsne : s ≠ []) (hraw : (PTree.node .and cs).sem s) :
    (inferOrNode F (.node .and cs)).sem s :=
  infer_or_tree_sound_proj F cs hne hdisj s hs hsne hraw

/-- non-vacuity: every hypothesis holds where the optional branch is itself a choice -/
example : (inferOrNode [["c"], ["c", "a"]]
    (.node .and [.leaf "c", .node .xor [.tau, .node .xor [.leaf "a", .leaf "b"]]])).sem ["c", "a"] := by
  apply or_inference_tree_sound
  · -- the mandatory child is the event `c`
    intro c hc s hs e
    cases List.mem_singleton.mp hc
    cases e ▸ (hs "c").mpr List.mem_cons_self
  · simp [classify, PTree.labelsL, PTree.labels, grandchildrenOf, PTree.isTau]
  · simp
  · simp
  · exact produces_sem _ _ (by decide +kernel)

/-- **C06, the OR inference on plain events, in the judge's semantics**: `inferOrNode` applied to the miner's node
`+(n…, X(tau, r)…)` over plain events, `N` disjoint from `R` and `R` not empty, returns a gate tree that `admits` every
non-empty observed set made of all of `N` and some of `R`. -/
theorem or_inference_leaves_sound (F : List (List String)) (N R : List String) (hR : R ≠ [])
    (hdis : ∀ x ∈ N, x ∉ R) (s : List String) (hs : s ∈ F) (T : List String) (hT : T.Sublist R)
    (hsame : SameSet s (N ++ T)) (hne : s ≠ []) :
    ∃ g, (inferOrNode F (rawLeaves N R)).toGate = some g ∧ admits g s = true := by
  obtain ⟨hgate, hno⟩ := inferOrNode_rawLeaves_gate F N R hR
  obtain ⟨g, hg⟩ := Option.isSome_iff_exists.mp hgate
  refine ⟨g, hg, sem_admits _ g hno hg s ?_⟩
  -- the mandatory children are events, named apart from the optional ones
  refine or_inference_tree_sound F _ ?_ ?_ s hs hne (rawLeaves_sem hT hsame)
  · rw [classify_raw]
    intro c hc p hp e
    obtain ⟨a, _, rfl⟩ := List.mem_map.mp hc
    cases e ▸ (hp a).mpr List.mem_cons_self
  · rw [classify_raw]
    simpa only [grandchildren_opt, labelsL_leaves] using hdis

/-- **C06, the cover step** (`get_weighted_cover`, tel2puml/utils.py 14-60): whichever of the equal candidates Python's
`max` returns (the iteration order of a set depends on the hash seed), a returned cover consists of observed sets, is
pairwise disjoint, covers the universe of the OR gate, and explains every observed set other than the universe: each
of its events lies in a cover member wholly inside the set. -/
theorem cover_spec (es0 : List (List String)) (u : List String) (c : List (List String))
    (h : some c ∈ weightedCover es0 u) :
    (∀ p ∈ c, p ∈ es0) ∧
    (c.Pairwise fun a b => ∀ x, ¬ (x ∈ a ∧ x ∈ b)) ∧
    (∀ x ∈ u, ∃ p ∈ c, x ∈ p) ∧
    (∀ e ∈ es0, sameS e u = false → ∀ x ∈ e, ∃ p ∈ c, (∀ y ∈ p, y ∈ e) ∧ x ∈ p) :=
  weightedCover_spec h

/-- **… in gate semantics**: the gate `process_missing_and_gates` builds from a returned cover, `OR(AND(group)…)`
(`rebuilt`), admits every non-empty observed set other than the universe. -/
theorem cover_sound (es0 : List (List String)) (u : List String) (c : List (List String))
    (h : some c ∈ weightedCover es0 u) (e : List String) (he : e ∈ es0) (hu : sameS e u = false) (hne : e ≠ []) :
    admits (rebuilt c) e = true :=
  rebuilt_admits hne ((cover_spec es0 u c h).2.2.2 e he hu)

/-- … and the universe itself, when every observed set lies inside it -/
theorem cover_sound_universe (es0 : List (List String)) (u : List String) (c : List (List String))
    (h : some c ∈ weightedCover es0 u) (hne : u ≠ []) (hsub : ∀ p ∈ es0, ∀ x ∈ p, x ∈ u) :
    admits (rebuilt c) u = true :=
  rebuilt_admits hne (cover_explains_universe h hsub fun _ hy => hy)

/-- non-vacuity: the family of `OR(AND(a,b), c)` has one cover, `{c}, {a,b}`; with `{a}` observed too every
choice ends in `None` (the greedy members overlap) -/
example :
    weightedCover [["a", "b"], ["c"], ["a", "b", "c"]] ["a", "b", "c"] = [some [["c"], ["a", "b"]]] ∧
    (weightedCover [["a", "b"], ["c"], ["a", "b", "c"], ["a"]] ["a", "b", "c"]).all Option.isNone = true := by
  decide +kernel

/-- **C06, the OR inference over the whole tree** (`get_extended_or_gates_from_process_tree` = `inferOrAll`; any
fuel).  If the miner's tree `t` names every event once, no observed set holds the empty name (a `tau`'s label) and `t`
passes the decidable test `wfT false F`, the rewritten tree produces every non-empty observed set `t` produces.  `wfT`
demands of every parallel node with optional branches the hypotheses of the per-node theorem in decidable form
(`canEmpty`) and a mandatory child, unless the node is never asked for the empty set: it is at the top or below choices
only, or every observed set shows one of its events. -/
theorem or_inference_all_sound (F : List (List String)) (hF : ∀ s0 ∈ F, "" ∉ s0) (fuel : Nat) (t : PTree)
    (hw : wfT false F t = true) (hnd : (NE t.labels).Nodup)
    (s : List String) (hs : s ∈ F) (hne : s ≠ []) (hraw : t.sem s) : (inferOrAll F fuel t).sem s :=
  (inferOrAll_goodS F hF fuel false t hw hnd).sem s (Or.inl hne) (.of_mem hs) hraw

/-- non-vacuity: an optional branch holding a parallel node with an optional branch of its own -/
example :
    let t : PTree := .node .and [.leaf "c", .node .xor [.tau, .node .and [.leaf "d", .node .xor [.tau, .leaf "a"]]]]
    let F := [["c"], ["c", "d"], ["c", "d", "a"]]
    wfT false F t = true ∧ (NE t.labels).Nodup ∧ ∀ s0 ∈ F, "" ∉ s0 := by decide +kernel

/-- **the last condition is needed**: `+(c, +(X(tau,a), X(tau,b)))` with `{c}` observed — an inner parallel node
without a mandatory child, an observed set showing none of its events — fails `wfT`, and there the recursion is unsound:
the inner node becomes `O(a, b)`, which cannot produce the empty set, so `+(c, O(a, b))` does not admit the observed
`{c}`.  The real `get_extended_or_gates_from_process_tree` returns the same tree (the check replays this
input); the miner is not known to emit such a tree. -/
example :
    let t : PTree := .node .and [.leaf "c", .node .and [.node .xor [.tau, .leaf "a"], .node .xor [.tau, .leaf "b"]]]
    let F := [["c"], ["a", "c"], ["b", "c"], ["a", "b", "c"]]
    wfT false F t = false ∧
    (inferOrAll F 5 t).toGate = some (.node .and [.leaf "c", .node .or [.leaf "a", .leaf "b"]]) ∧
    admits (.node .and [.leaf "c", .node .or [.leaf "a", .leaf "b"]]) ["c"] = false := by
  refine ⟨by decide +kernel, ?_, by decide +kernel⟩
  simp [inferOrAll, inferOrAllL, inferOrNode, classify, PTree.isTau, grandchildrenOf, checkIsOr, PTree.toGate,
    PTree.toGateL]

/-- **C06, the defunct-OR filter over the whole tree** (`filter_defunct_or_gates` = `filterDefunct`; any fuel): for a
tree that names every event once and observed sets without the empty name, the filtered tree produces every non-empty
observed set the tree produces. -/
theorem filter_defunct_sound (F : List (List String)) (hF : ∀ s0 ∈ F, "" ∉ s0) (fuel : Nat) (t : PTree)
    (hnd : (NE t.labels).Nodup) (s : List String) (hs : s ∈ F) (hne : s ≠ []) (hraw : t.sem s) :
    (filterDefunct fuel t).sem s := by
  have _ := hne
  exact (filterDefunct_good F hF fuel t hnd).sem s (.of_mem hs) hraw

/-- **C06, the AND recovery over the whole tree** (`process_missing_and_gates` = `missingAnd`): for a tree that names
every event once and observed sets without repetitions or empty names, **every** outcome (every choice of the cover
step at every OR gate over plain events) produces every non-empty observed set the tree produces. -/
theorem missing_and_all_sound (F : List (List String)) (hF : ∀ s0 ∈ F, "" ∉ s0) (hFnd : ∀ s0 ∈ F, s0.Nodup)
    (fuel : Nat) (t : PTree) (hnd : (NE t.labels).Nodup) (o : PTree) (ho : o ∈ missingAnd fuel F t)
    (s : List String) (hs : s ∈ F) (hne : s ≠ []) (hraw : t.sem s) : o.sem s := by
  have _ := hne
  exact (missingAnd_good F hF hFnd fuel t hnd o ho).sem s (.of_mem hs) hraw

/-- non-vacuity: the tree names every event once, and the cover step has one outcome at its OR gate, `[{c}, {a,b}]` -/
example :
    let t : PTree := .node .xor [.leaf "e", .node .or [.leaf "a", .leaf "b", .leaf "c"]]
    (NE t.labels).Nodup ∧ (weightedCover (projF [["e"], ["a", "b"], ["c"], ["a", "b", "c"]] ["a", "b", "c"])
      ["a", "b", "c"]) = [some [["c"], ["a", "b"]]] := by decide +kernel

/-- the three passes chain because `GoodS` also carries that no label is new and names stay distinct -/
theorem postProcess_goodS (F : List (List String)) (hF : ∀ s0 ∈ F, "" ∉ s0) (hFnd : ∀ s0 ∈ F, s0.Nodup)
    (t : PTree) (hw : wfT false F t = true) (hnd : (NE t.labels).Nodup) (o : PTree) (ho : o ∈ postProcess F t) :
    GoodS false F t o := by
  have g1 := inferOrAll_goodS F hF 50 false t hw hnd
  have g2 := filterDefunct_good F hF 200 _ (g1.nd hnd)
  exact (g1.trans g2).trans (missingAnd_good F hF hFnd 50 _ (g2.nd (g1.nd hnd)) o ho)

/-- **C06, the repository's whole post-processing** (`reduce_process_tree_to_preferred_logic_gates` = `postProcess`:
the three passes above, the last under every choice of the cover step).  For every tree of the miner that names every
event once and passes `wfT false F`, and observed sets without repetitions or empty names, **every** outcome produces
every non-empty observed set the miner's tree produces.  So the first sentence of C06 holds for that function relative
to pm4py's miner (its raw trees are data; `calculate_repeats_in_tree`, which `calculate_logic_gates` runs afterwards, is
not modelled); where a raw tree fails `wfT` (example above) only execution decides. -/
theorem post_process_sound (F : List (List String)) (hF : ∀ s0 ∈ F, "" ∉ s0) (hFnd : ∀ s0 ∈ F, s0.Nodup)
    (t : PTree) (hw : wfT false F t = true) (hnd : (NE t.labels).Nodup) (o : PTree) (ho : o ∈ postProcess F t)
    (s : List String) (hs : s ∈ F) (hne : s ≠ []) (hraw : t.sem s) : o.sem s :=
  (postProcess_goodS F hF hFnd t hw hnd o ho).sem s (Or.inl hne) (.of_mem hs) hraw

/-- **… in the judge's semantics**: for an outcome without silent leaves (`noTau`) that reads as the gate tree `g`, the
executable judge `admits` the observed set. -/
theorem post_process_admits (F : List (List String)) (hF : ∀ s0 ∈ F, "" ∉ s0) (hFnd : ∀ s0 ∈ F, s0.Nodup)
    (t : PTree) (hw : wfT false F t = true) (hnd : (NE t.labels).Nodup) (o : PTree) (ho : o ∈ postProcess F t)
    (hno : noTau o = true) (g : Gate) (hg : o.toGate = some g)
    (s : List String) (hs : s ∈ F) (hne : s ≠ []) (hraw : t.sem s) : admits g s = true :=
  sem_admits o g hno hg s (post_process_sound F hF hFnd t hw hnd o ho s hs hne hraw)

/-- non-vacuity of `post_process_sound` -/
example :
    let t : PTree := .node .and [.leaf "c", .node .xor [.tau, .node .and [.leaf "d", .node .xor [.tau, .leaf "a"]]]]
    let F := [["c"], ["c", "d"], ["c", "d", "a"]]
    wfT false F t = true ∧ (NE t.labels).Nodup ∧ (∀ s0 ∈ F, "" ∉ s0) ∧ (∀ s0 ∈ F, s0.Nodup) := by decide +kernel

/-- the hypotheses of `post_process_sound` as one executable test (the driver's `gate.wfraw` reports its four
conjuncts for each real raw tree); `PTree.produces` enumerates the tree's outcomes and is sound for `PTree.sem` -/
def hypsB (F : List (List String)) (t : PTree) : Bool :=
  wfT false F t && decide (NE t.labels).Nodup && F.all (fun s => !s.contains "" && decide s.Nodup) &&
    F.all (fun s => s.isEmpty || t.produces s)

/-- **C06, per input**: when `hypsB` says yes for the miner's raw tree, **every** outcome of the post-processing
produces every non-empty observed set. -/
theorem post_process_checked (F : List (List String)) (t : PTree) (h : hypsB F t = true)
    (o : PTree) (ho : o ∈ postProcess F t) (s : List String) (hs : s ∈ F) (hne : s ≠ []) : o.sem s := by
  simp only [hypsB, Bool.and_eq_true, decide_eq_true_eq, List.all_eq_true, Bool.not_eq_true', Bool.or_eq_true] at h
  obtain ⟨⟨⟨hw, hnd⟩, hnames⟩, hprod⟩ := h
  refine post_process_sound F (fun s0 hs0 => by simpa using (hnames s0 hs0).1) (fun s0 hs0 => (hnames s0 hs0).2)
    t hw hnd o ho s hs hne ((hprod s hs).elim (fun h => absurd (List.isEmpty_iff.mp h) hne) (produces_sem t s))

/-- non-vacuity -/
example : hypsB [["c"], ["c", "d"], ["c", "d", "a"]]
    (.node .and [.leaf "c", .node .xor [.tau, .node .and [.leaf "d", .node .xor [.tau, .leaf "a"]]]]) = true := by
  decide +kernel

/-- **the order of children does not matter** for what a node produces: comparing the real post-processing with the
model's outcomes up to the order of children (the cover is a Python set) loses nothing. -/
theorem children_order_irrelevant (op : POp) (cs cs' : List PTree) (h : cs.Perm cs') (s : List String) :
    (PTree.node op cs).sem s ↔ (PTree.node op cs').sem s :=
  ⟨sem_perm op h s, sem_perm op h.symm s⟩

/-- **the judge and the theorems speak of the same thing**: on a tree without silent leaves, read as the gate tree `g`,
the judge's `admits g s` holds exactly when the tree produces `s`. -/
theorem judge_is_sem (t : PTree) (g : Gate) (hn : noTau t = true) (hg : t.toGate = some g) (s : List String) :
    admits g s = true ↔ t.sem s :=
  admits_iff_sem t g hn hg s

/-- **C06, the post-processing on the flat case, wherever the gate sits**: for the miner's node over optional plain
events only, `+(X(tau, r)…)` with at least one, **every** outcome of `postProcess` is a gate tree that admits the part
of every observed set lying among those events, where that part is not empty.  Observed sets may reach outside `R` (the
gate is a sub-gate of a larger tree): the cover step sees their parts inside `R`, as in the code after fix dcf1496
(example below). -/
theorem post_flat_or_sound_proj (F : List (List String)) (R : List String) (hR : R ≠ [])
    (o : PTree) (ho : o ∈ postProcess F (rawLeaves [] R))
    (s : List String) (hs : s ∈ F) (hne : interS s R ≠ []) :
    ∃ g, o.toGate = some g ∧ admits g (interS s R) = true := by
  rw [postProcess_flat F R hR, List.mem_map] at ho
  obtain ⟨r, hr, rfl⟩ := ho
  cases r with
  | none =>
    -- no cover: the gate stays `OR(r…)`, the rebuilt gate of the cover by single events
    refine ⟨rebuilt (R.map fun a => [a]), map_partTree_singletons R ▸ toGate_rebuilt _, rebuilt_admits hne ?_⟩
    intro x hx
    exact ⟨[x], List.mem_map_of_mem (mem_interS.mp hx).2, fun y hy => List.mem_singleton.mp hy ▸ hx,
      List.mem_singleton_self x⟩
  | some cover => exact ⟨rebuilt cover, toGate_rebuilt cover, rebuilt_admits hne (cover_explains_proj hr hs)⟩

/-- **… in particular** every non-empty observed set wholly among those events -/
theorem post_flat_or_sound (F : List (List String)) (R : List String) (hR : R ≠ [])
    (o : PTree) (ho : o ∈ postProcess F (rawLeaves [] R))
    (s : List String) (hs : s ∈ F) (hne : s ≠ []) (hsub : ∀ x ∈ s, x ∈ R) :
    ∃ g, o.toGate = some g ∧ admits g s = true := by
  have h := post_flat_or_sound_proj F R hR o ho s hs (by rwa [interS_of_subset hsub])
  rwa [interS_of_subset hsub] at h

/-- the input of fix dcf1496, at its OR gate over `b, c, d`: the cover step sees `{c,d}`, the part of `{a,c,d}` inside
the gate, finds no cover under any choice and the gate stays `OR(b, c, d)`, which admits `{c,d}`; the gate built from
the sets wholly inside alone, `OR(AND(b,c), d)`, does not. -/
example :
    let F := [["b", "c"], ["b", "c", "d"], ["d"], ["a"], ["a", "e"], ["e"], ["a", "c", "d"]]
    postProcess F (rawLeaves [] ["b", "c", "d"]) = [.node .or [.leaf "b", .leaf "c", .leaf "d"]] ∧
    admits (.node .or [.leaf "b", .leaf "c", .leaf "d"]) ["c", "d"] = true ∧
    admits (rebuilt [["b", "c"], ["d"]]) ["c", "d"] = false := by
  intro F
  refine ⟨?_, by decide +kernel, by decide +kernel⟩
  rw [postProcess_flat _ _ (by decide)]
  have h : weightedCover (projF F ["b", "c", "d"]) ["b", "c", "d"] = [none] := by decide +kernel
  rw [h]
  rfl

end O2P.Gate
