import O2P.Lemmas.LearnAlg
/-!
# C03 — the learned model is independent of order, identifiers and repeats (ingestion half)
Permuting the jobs, permuting the events inside a job (event ids distinct), renaming event ids injectively and job ids
(timestamps do not occur in the model at all) or supplying a job twice gives an equivalent model: the same event types with the same
successor / predecessor multisets.  What comes after ingestion (gate inference, loop detection, the walk) runs
over Python sets; its independence of container order is not proved (`C03_walk_full`).
-/
namespace O2P.Learn

/-- supplying jobs again, e.g. one job twice -/
theorem ingest_same_members (m : Model) (jobs jobs' : List (List PV)) (h : ∀ j, j ∈ jobs ↔ j ∈ jobs') :
    Equiv (ingest m jobs) (ingest m jobs') :=
  ingest_equiv_of_same_obs m jobs jobs' fun _ => exists_congr fun j => and_congr_left' (h j)

open List in
theorem ingest_perm (m : Model) {jobs jobs' : List (List PV)} (h : jobs ~ jobs') :
    Equiv (ingest m jobs) (ingest m jobs') :=
  ingest_same_members m jobs jobs' fun _ => h.mem_iff

theorem ingest_idem (m : Model) (jobs : List (List PV)) (j : List PV) (hj : j ∈ jobs) :
    Equiv (ingest m (jobs ++ [j])) (ingest m jobs) :=
  ingest_same_members m _ _ fun x => by
    rw [List.mem_append, List.mem_singleton]
    exact ⟨fun h => h.elim id (· ▸ hj), Or.inl⟩

/-- two presentations of one job show the same things -/
def SameObs (job job' : List PV) : Prop := ∀ φ, shows job φ ↔ shows job' φ

theorem ingest_job_congr (m : Model) (pre post : List (List PV)) (job job' : List PV) (h : SameObs job job') :
    Equiv (ingest m (pre ++ job :: post)) (ingest m (pre ++ job' :: post)) :=
  ingest_equiv_of_same_obs m _ _ fun φ => by
    simp only [List.mem_append, List.mem_cons, or_and_right, exists_or, exists_eq_left, h φ]

theorem nonempty_perm_congr {S S' : ESet} (h : S.Perm S') (T : ESet) :
    (S ≠ [] ∧ S.Perm T) ↔ (S' ≠ [] ∧ S'.Perm T) := by
  rw [List.ne_nil_iff_length_pos, List.ne_nil_iff_length_pos, h.length_eq, h.congr_left]

theorem outFact_perm {S S' : ESet} (h : S.Perm S') (t : String) (φ : Fact) : outFact t S φ ↔ outFact t S' φ := by
  cases φ <;> simp only [outFact, nonempty_perm_congr h]

theorem inFact_perm {S S' : ESet} (h : S.Perm S') (t : String) (φ : Fact) : inFact t S φ ↔ inFact t S' φ := by
  cases φ <;> simp only [inFact, nonempty_perm_congr h]

/-- what reordering and renaming share: the events of `job'` are those of `job` under `ρ`, which keeps the type
of an event and, up to order, the types after and before it -/
theorem sameObs_of_corr {job job' : List PV} (ρ : PV → PV) (hm : ∀ e', e' ∈ job' ↔ ∃ e ∈ job, ρ e = e')
    (ht : ∀ e ∈ job, (ρ e).typ = e.typ)
    (hpost : ∀ e ∈ job, (postTypes job' (ρ e)).Perm (postTypes job e))
    (hprev : ∀ e ∈ job, (prevTypes job' (ρ e)).Perm (prevTypes job e))
    (hstart : (startTypes job').Perm (startTypes job)) : SameObs job' job := by
  intro φ
  have hev : ∀ e ∈ job, (evFact job' (ρ e) φ ↔ evFact job e φ) := fun e he => by
    unfold evFact
    rw [ht e he, outFact_perm (hpost e he), inFact_perm (hprev e he)]
  rw [shows_iff, shows_iff, outFact_perm hstart]
  refine or_congr_left ⟨?_, ?_⟩
  · rintro ⟨e', he', h⟩
    obtain ⟨e, he, rfl⟩ := (hm e').mp he'
    exact ⟨e, he, (hev e he).mp h⟩
  · rintro ⟨e, he, h⟩
    exact ⟨ρ e, (hm _).mpr ⟨e, he, rfl⟩, (hev e he).mpr h⟩

def DistinctIds (job : List PV) : Prop := (job.map (·.eventId)).Nodup

theorem find_of_mem_distinct : ∀ (job : List PV), DistinctIds job → ∀ e ∈ job,
    job.find? (·.eventId == e.eventId) = some e
  | x :: xs, hd, e, he => by
    obtain ⟨hx, hd⟩ := List.nodup_cons.mp hd
    rcases List.mem_cons.mp he with rfl | he'
    · simp
    · have hne : x.eventId ≠ e.eventId := fun h => hx (List.mem_map.mpr ⟨e, he', h.symm⟩)
      rw [List.find?_cons_of_neg (by simpa using hne)]
      exact find_of_mem_distinct xs hd e he'

open List in
theorem typeOf_perm {job job' : List PV} (h : job ~ job') (hd : DistinctIds job) : typeOf job = typeOf job' := by
  have hd' : DistinctIds job' := (h.map _).nodup_iff.mp hd
  funext id
  unfold typeOf
  cases h1 : job.find? (·.eventId == id) with
  | some e =>
    have hid : e.eventId = id := by simpa using List.find?_some h1
    rw [← hid, find_of_mem_distinct job' hd' e (h.subset (List.mem_of_find?_eq_some h1))]
  | none => rw [List.find?_eq_none.mpr fun x hx => List.find?_eq_none.mp h1 x (h.symm.subset hx)]

open List in
theorem sameObs_of_perm {job job' : List PV} (h : job ~ job') (hd : DistinctIds job) : SameObs job job' :=
  sameObs_of_corr (job := job') (job' := job) id (fun e' => by simp [h.mem_iff]) (fun _ _ => rfl)
    (fun e _ => h.flatMap_right _)
    (fun e _ => by unfold prevTypes; rw [typeOf_perm h hd]; rfl)
    ((h.filter _).map _)

/-- the model does not depend on the order of the events inside a job file (event ids distinct) -/
theorem ingest_events_perm (m : Model) (pre post : List (List PV)) {job job' : List PV}
    (h : job.Perm job') (hd : DistinctIds job) :
    Equiv (ingest m (pre ++ job :: post)) (ingest m (pre ++ job' :: post)) :=
  ingest_job_congr m pre post job job' (sameObs_of_perm h hd)

def renameJob (f g : String → String) (job : List PV) : List PV :=
  job.map fun e => { e with eventId := f e.eventId, prev := e.prev.map f, jobId := g e.jobId }

def renameEv (f g : String → String) (e : PV) : PV :=
  { e with eventId := f e.eventId, prev := e.prev.map f, jobId := g e.jobId }

theorem renameJob_eq (f g : String → String) (job : List PV) : renameJob f g job = job.map (renameEv f g) := rfl

theorem beq_of_injective {f : String → String} (hf : Function.Injective f) (a b : String) :
    (f a == f b) = (a == b) := by
  rw [Bool.eq_iff_iff, beq_iff_eq, beq_iff_eq, hf.eq_iff]

theorem postTypes_rename (f g : String → String) (hf : Function.Injective f) (job : List PV) (e : PV) :
    postTypes (renameJob f g job) (renameEv f g e) = postTypes job e := by
  have : ((· == f e.eventId) ∘ f) = (· == e.eventId) := funext fun x => beq_of_injective hf x _
  simp only [postTypes, renameJob_eq, renameEv, List.flatMap_map, List.filter_map, List.map_map, this]
  rfl

theorem typeOf_rename (f g : String → String) (hf : Function.Injective f) (job : List PV) :
    typeOf (renameJob f g job) ∘ f = typeOf job := by
  funext id
  have : ((fun x : PV => x.eventId == f id) ∘ renameEv f g) = fun e => e.eventId == id :=
    funext fun e => beq_of_injective hf e.eventId id
  unfold Function.comp typeOf
  rw [renameJob_eq, List.find?_map, this]
  cases job.find? (fun e => e.eventId == id) <;> rfl

theorem prevTypes_rename (f g : String → String) (hf : Function.Injective f) (job : List PV) (e : PV) :
    prevTypes (renameJob f g job) (renameEv f g e) = prevTypes job e := by
  unfold prevTypes renameEv
  simp only [List.isEmpty_map, List.map_map, typeOf_rename f g hf]

theorem startTypes_rename (f g : String → String) (job : List PV) :
    startTypes (renameJob f g job) = startTypes job := by
  simp [startTypes, renameJob_eq, renameEv, List.filter_map, Function.comp_def]

theorem sameObs_rename (f g : String → String) (hf : Function.Injective f) (job : List PV) :
    SameObs (renameJob f g job) job :=
  sameObs_of_corr (renameEv f g) (fun _ => List.mem_map) (fun _ _ => rfl)
    (fun e _ => .of_eq (postTypes_rename f g hf job e))
    (fun e _ => .of_eq (prevTypes_rename f g hf job e))
    (.of_eq (startTypes_rename f g job))

/-- the model does not depend on event ids (renamed injectively) or job ids -/
theorem ingest_rename (m : Model) (pre post : List (List PV)) (f g : String → String)
    (hf : Function.Injective f) (job : List PV) :
    Equiv (ingest m (pre ++ renameJob f g job :: post)) (ingest m (pre ++ job :: post)) :=
  ingest_job_congr m pre post _ job (sameObs_rename f g hf job)

/-- the other half of C03; not proved, decided by execution on the generated job sets.  `diagram` stands for
everything after ingestion (gate inference, loop detection, the walk, linearisation) as a relation between a
model and the texts it may emit under some container order, `accepts` for the meaning of a text: equivalent
models only ever yield texts with one language. -/
def C03_walk_full (diagram : Model → String → Prop) (accepts : String → List PV → Prop) : Prop :=
  ∀ m m' : Model, Equiv m m' → ∀ d d', diagram m d → diagram m' d' → ∀ job, accepts d job ↔ accepts d' job

/-- the fork job A -> {B, C} -> D presented in two event orders with other ids: same families -/
example :
    let j1 : List PV := [⟨"j", "1", "A", []⟩, ⟨"j", "2", "B", ["1"]⟩, ⟨"j", "3", "C", ["1"]⟩, ⟨"j", "4", "D", ["2", "3"]⟩]
    let j2 : List PV := [⟨"k", "d", "D", ["c", "b"]⟩, ⟨"k", "c", "C", ["a"]⟩, ⟨"k", "a", "A", []⟩, ⟨"k", "b", "B", ["a"]⟩]
    (ingest [] [j1]).map (fun e => (e.typ, e.outs)) =
      [("A", [["B", "C"]]), ("B", [["D"]]), ("C", [["D"]]), ("D", []), ("|||START|||", [["A"]])] ∧
    ((ingest [] [j2]).find? (·.typ == "A")).map (·.outs) = some [["C", "B"]] ∧
    ((ingest [] [j2]).find? (·.typ == "D")).map (·.ins) = some [["C", "B"]] := by
  decide +kernel

end O2P.Learn
