import O2P.Model.Seq
import O2P.Lemmas.Lists
/-! # C08 — call trees are sequenced as the sequencing rules specify (model `O2P.Seq`) -/
namespace O2P.Seq

variable {α : Type}

theorem sweepGo_flatten (start stop : α → Int) (cur : List α) (mx : Int) (gs : List (List α)) :
    (sweepGo start stop cur mx gs).flatten = cur ++ gs.flatten := by
  fun_induction sweepGo start stop cur mx gs with
  | case1 => simp
  | case2 cur mx g gs _ ih => simp [ih]
  | case3 cur mx g gs _ ih => simp [ih]

theorem sweep_flatten (start stop : α → Int) (gs : List (List α)) :
    (sweep start stop gs).flatten = gs.flatten := by
  cases gs with
  | nil => rfl
  | cons g gs => simp [sweep, sweepGo_flatten]

theorem foldl_max_append (stop : α → Int) (m : Int) (l r : List α) :
    (l ++ r).foldl (fun m y => max m (stop y)) m = r.foldl (fun m y => max m (stop y)) (l.foldl (fun m y => max m (stop y)) m) :=
  List.foldl_append

theorem foldl_max_init (stop : α → Int) (a b : Int) (l : List α) :
    l.foldl (fun m y => max m (stop y)) (max a b) = max a (l.foldl (fun m y => max m (stop y)) b) := by
  induction l generalizing b with
  | nil => rfl
  | cons x xs ih => rw [List.foldl_cons, List.foldl_cons, Int.max_assoc, ih]

/-- `maxStop [] = 0` is not neutral for `max`, hence the two hypotheses (and `hne` below) -/
theorem maxStop_append (stop : α → Int) {g h : List α} (hg : g ≠ []) (hh : h ≠ []) :
    maxStop stop (g ++ h) = max (maxStop stop g) (maxStop stop h) := by
  obtain ⟨x, xs, rfl⟩ := List.exists_cons_of_ne_nil hg
  obtain ⟨y, ys, rfl⟩ := List.exists_cons_of_ne_nil hh
  rw [List.cons_append, maxStop, maxStop, maxStop, foldl_max_append, List.foldl_cons, foldl_max_init]

theorem le_foldl_max (stop : α → Int) (m : Int) (l : List α) :
    m ≤ l.foldl (fun m y => max m (stop y)) m ∧ ∀ a ∈ l, stop a ≤ l.foldl (fun m y => max m (stop y)) m := by
  induction l generalizing m with
  | nil => exact ⟨Int.le_refl m, nofun⟩
  | cons x xs ih =>
    have ⟨h1, h2⟩ := ih (max m (stop x))
    exact ⟨Int.le_trans (Int.le_max_left ..) h1,
      List.forall_mem_cons.mpr ⟨Int.le_trans (Int.le_max_right ..) h1, h2⟩⟩

theorem le_maxStop (stop : α → Int) : ∀ {l : List α} {a : α}, a ∈ l → stop a ≤ maxStop stop l
  | x :: xs, a, ha => by
    have ⟨h1, h2⟩ := le_foldl_max stop (stop x) xs
    exact (List.mem_cons.mp ha).elim (· ▸ h1) (h2 a)

theorem sweepGo_eq_spec (start stop : α → Int) {cur : List α} {gs : List (List α)}
    (hc : cur ≠ []) (hne : ∀ g ∈ gs, g ≠ []) :
    sweepGo start stop cur (maxStop stop cur) gs = sweepSpec start stop (cur :: gs) := by
  induction gs generalizing cur with
  | nil => rw [sweepGo, sweepSpec]
  | cons g gs ih =>
    have ⟨hg, hgs⟩ := List.forall_mem_cons.mp hne
    rw [sweepGo, sweepSpec]
    split
    · rw [ih hg hgs]
    · rw [← maxStop_append stop hc hg, ih (List.append_ne_nil_of_left_ne_nil hc g) hgs]

/-- The running maximum is the latest end of the current chain: on non-empty groups (`maxStop [] = 0` is no neutral
element) `sweep` equals the accumulator-free `sweepSpec`. -/
theorem sweep_eq_spec (start stop : α → Int) (gs : List (List α)) (hne : ∀ g ∈ gs, g ≠ []) :
    sweep start stop gs = sweepSpec start stop gs := by
  cases gs with
  | nil => rw [sweep, sweepSpec]
  | cons g gs =>
    have ⟨hg, hgs⟩ := List.forall_mem_cons.mp hne
    exact sweepGo_eq_spec start stop hg hgs

/-- every span of a group ends before the first span of the next group starts -/
def Separated (start stop : α → Int) : List (List α) → Prop
  | [] => True
  | [_] => True
  | a :: b :: r => (∀ x ∈ a, stop x < headKey start b) ∧ Separated start stop (b :: r)

theorem sweepSpec_head (start stop : α → Int) (g : List α) (gs : List (List α)) :
    ∃ t r, sweepSpec start stop (g :: gs) = (g ++ t) :: r := by
  induction gs generalizing g with
  | nil => exact ⟨[], [], by rw [sweepSpec, List.append_nil]⟩
  | cons h gs ih =>
    rw [sweepSpec]
    split
    · exact ⟨[], _, by rw [List.append_nil]⟩
    · obtain ⟨t, r, e⟩ := ih (g ++ h)
      exact ⟨h ++ t, r, by rw [e, List.append_assoc]⟩

theorem headKey_append (key : α → Int) {a : List α} (t : List α) (ha : a ≠ []) :
    headKey key (a ++ t) = headKey key a := by
  obtain ⟨x, xs, rfl⟩ := List.exists_cons_of_ne_nil ha
  rfl

theorem sweepSpec_separated (start stop : α → Int) (g : List α) {gs : List (List α)}
    (hne : ∀ h ∈ gs, h ≠ []) : Separated start stop (sweepSpec start stop (g :: gs)) := by
  induction gs generalizing g with
  | nil => rw [sweepSpec]; trivial
  | cons h gs ih =>
    have ⟨hh, hgs⟩ := List.forall_mem_cons.mp hne
    rw [sweepSpec]
    split
    · rename_i hlt
      -- a cut: the chain `g` ends before `h` starts, and the next chain starts as `h` does
      obtain ⟨t, r, e⟩ := sweepSpec_head start stop h gs
      have ih' := ih h hgs
      rw [e] at ih' ⊢
      refine ⟨fun x hx => ?_, ih'⟩
      rw [headKey_append start t hh]
      exact Int.lt_of_le_of_lt (le_maxStop stop hx) hlt
    · exact ih (g ++ h) hgs

/-- For non-empty groups, every span of a group of the sweep's result ends before the first span of the next group
starts. Where the first span of a group is its earliest, as with the groups `orderGroups` hands to `sweep` in `arrange`,
that is no overlap across a cut; the order is not part of the statement. -/
theorem sweep_separated (start stop : α → Int) (gs : List (List α)) (hne : ∀ g ∈ gs, g ≠ []) :
    Separated start stop (sweep start stop gs) := by
  rw [sweep_eq_spec start stop gs hne]
  cases gs with
  | nil => rw [sweepSpec]; trivial
  | cons g gs => exact sweepSpec_separated start stop g (List.forall_mem_cons.mp hne).2

/-- No cut inside a chain, one step: a group starting no later than the chain's latest end joins it. Only `sweepSpec`'s
defining equation in the overlapping case; `sweep_eq_spec` carries it over to `sweep`. -/
theorem sweepSpec_merge (start stop : α → Int) (g h : List α) (gs : List (List α))
    (hov : headKey start h ≤ maxStop stop g) :
    sweepSpec start stop (g :: h :: gs) = sweepSpec start stop ((g ++ h) :: gs) := by
  rw [sweepSpec, if_neg (Int.not_lt.mpr hov)]

/-- `sweepOld` compares with the last appended span, as the code did before fix 6a52c10: it cuts C[30,40] off
A[0,100], which it overlaps -/
theorem sweepOld_cex :
    let A : Span := ⟨"A", "T", 0, 100⟩
    let B : Span := ⟨"B", "T", 10, 20⟩
    let C : Span := ⟨"C", "T", 30, 40⟩
    sweepOld Span.start Span.stop [[A], [B], [C]] = [[A, B], [C]] ∧
    sweep Span.start Span.stop [[A], [B], [C]] = [[A, B, C]] := by decide +kernel

theorem sortBy_eq (key : α → Int) : sortBy key = insertionSort fun y x => decide (key y < key x) := by
  have : insertBy key = orderedInsert fun y x => decide (key y < key x) := by
    funext x l; induction l <;> simp [insertBy, orderedInsert, *]
  funext l; rw [sortBy, this]; rfl

open List in
theorem sortBy_perm (key : α → Int) (l : List α) : sortBy key l ~ l :=
  sortBy_eq key ▸ insertionSort_perm l

open List in
theorem flatten_map_perm {f : List α → List α} (hf : ∀ g, f g ~ g) (gs : List (List α)) :
    (gs.map f).flatten ~ gs.flatten := by
  induction gs with
  | nil => exact Perm.refl _
  | cons g gs ih => simpa using Perm.append (hf g) ih

open List in
theorem orderGroups_perm (start : α → Int) (gs : List (List α)) :
    (orderGroups start gs).flatten ~ gs.flatten :=
  (Perm.flatten (sortBy_perm _ _)).trans (flatten_map_perm (sortBy_perm start) gs)

theorem dedup_eq : dedup = firsts fun a b => decide (a = b) := by
  funext l; induction l <;> simp [dedup, firsts, *]

theorem dedup_nodup (l : List String) : (dedup l).Nodup :=
  dedup_eq ▸ firsts_nodup (fun _ _ => decide_eq_true_iff) l

theorem mem_dedup {x : String} {l : List String} : x ∈ dedup l ↔ x ∈ l :=
  dedup_eq ▸ mem_firsts fun _ _ => decide_eq_true_iff

theorem lookup_mem {k : String} {m : List (String × String)} {v : String} (h : lookup k m = some v) :
    v ∈ m.map Prod.snd := by
  fun_induction lookup k m with
  | case1 => cases h
  | case2 b r => cases h; exact List.mem_cons_self
  | case3 a b r _ ih => exact List.mem_cons_of_mem _ (ih h)

open List in
theorem filter_or_perm {p q : α → Bool} (hd : ∀ x, p x = true → q x = false) (l : List α) :
    l.filter p ++ l.filter q ~ l.filter (fun x => p x || q x) := by
  -- of the right-hand list, what passes `p` is `l.filter p` and what fails it is `l.filter q`
  have h := filter_append_perm p (l.filter fun x => p x || q x)
  rw [filter_filter, filter_filter] at h
  refine Perm.trans (Perm.of_eq ?_) h
  congr 1 <;> apply filter_congr <;> intro x _
  · cases p x <;> simp
  · cases hp : p x <;> simp [hd x, hp]

open List in
theorem classes_flatten_perm {κ : Type} [BEq κ] [LawfulBEq κ] (k : α → κ) (xs : List α) :
    ∀ (cs : List κ), cs.Nodup →
      (cs.map fun c => xs.filter fun x => k x == c).flatten ~ xs.filter fun x => cs.contains (k x)
  | [], _ => by simp
  | c :: cs, hnd => by
    have ⟨hc, hnd'⟩ := nodup_cons.mp hnd
    simp only [map_cons, flatten_cons, contains_cons]
    refine (Perm.append_left _ (classes_flatten_perm k xs cs hnd')).trans (filter_or_perm ?_ xs)
    intro x hx
    rw [eq_of_beq hx]
    simpa using hc

open List in
/-- `group_events_using_async_information` loses and duplicates no sibling: flattened, its groups are the classes of
`lookup (typ ·) gmap`, one per group id of the map (the empty ones, which it drops, add nothing) and one, cut into
singletons, for `none` -/
theorem groupPrior_perm (typ : α → String) (gmap : List (String × String)) (xs : List α) :
    (groupPrior typ gmap xs).flatten ~ xs := by
  have e : (groupPrior typ gmap xs).flatten = (((dedup (gmap.map Prod.snd)).map some ++ [none]).map fun c =>
      xs.filter fun x => lookup (typ x) gmap == c).flatten := by
    simp only [groupPrior, flatten_append, flatten_filter_not_isEmpty, ← flatMap_def, flatMap_singleton', map_append,
      map_map, Function.comp_def, map_cons, Option.beq_none, map_nil, flatten_cons, flatten_nil, append_nil]
  rw [e]
  refine (classes_flatten_perm (fun x => lookup (typ x) gmap) xs _ ?_).trans (Perm.of_eq (filter_eq_self.mpr ?_))
  · refine nodup_append.mpr ⟨pairwise_map.mpr ((dedup_nodup _).imp fun h e => h (Option.some.inj e)),
      pairwise_singleton _ _, fun _ ha _ hb => ?_⟩
    obtain ⟨g, _, rfl⟩ := mem_map.mp ha
    rw [mem_singleton.mp hb]
    exact Option.some_ne_none g
  · intro x _
    apply contains_iff_mem.mpr
    cases hk : lookup (typ x) gmap with
    | none => exact mem_append_right _ (mem_singleton_self none)
    | some g => exact mem_append_left _ (mem_map_of_mem (mem_dedup.mpr (lookup_mem hk)))

open List in
theorem arrange_perm (typ : α → String) (start stop : α → Int) (async : Bool)
    (gmap : List (String × String)) (xs : List α) :
    (arrange typ start stop async gmap xs).flatten ~ xs := by
  unfold arrange
  have h := (orderGroups_perm start (groupPrior typ gmap xs)).trans (groupPrior_perm typ gmap xs)
  split
  · rw [sweep_flatten]; exact h
  · exact h

mutual
theorem linkT_keys : ∀ (t : GTree) (prev : List String), (linkT t prev).map Prod.fst = t.ids
  | .node s gs, prev => by
    simp [linkT, GTree.ids, linkGs_keys gs prev]
theorem linkGs_keys : ∀ (gs : List (List GTree)) (prev : List String),
    (linkGs gs prev).1.map Prod.fst = gidsLL gs
  | [], _ => by simp [linkGs, gidsLL]
  | g :: gs, prev => by
    simp [linkGs, gidsLL, linkG_keys g prev, linkGs_keys gs _]
theorem linkG_keys : ∀ (g : List GTree) (prev : List String), (linkG g prev).map Prod.fst = gidsL g
  | [], _ => by simp [linkG, gidsL]
  | t :: ts, prev => by
    simp [linkG, gidsL, linkT_keys t prev, linkG_keys ts prev]
end

theorem wfLinks_mono {seen seen' : List String} (h : seen ⊆ seen') :
    ∀ {l : Links}, wfLinks seen l → wfLinks seen' l
  | [], _ => trivial
  | (x, _) :: _, ⟨h1, h2⟩ => ⟨fun p hp => h (h1 p hp), wfLinks_mono (List.cons_subset_cons x h) h2⟩

theorem wfLinks_append {seen : List String} :
    ∀ {a b : Links}, wfLinks seen a → wfLinks (a.map Prod.fst ++ seen) b → wfLinks seen (a ++ b)
  | [], _, _, hb => hb
  | (_, _) :: _, _, ⟨h1, h2⟩, hb =>
    ⟨h1, wfLinks_append h2 (wfLinks_mono List.perm_middle.symm.subset hb)⟩

theorem roots_mem_gidsL : ∀ {g : List GTree} {x : String}, x ∈ g.map (fun t => t.span.id) → x ∈ gidsL g
  | .node s gs :: ts, x, h => by
    rw [gidsL, GTree.ids, List.mem_append, List.mem_append]
    exact (List.mem_cons.mp h).imp (fun e => Or.inr (List.mem_singleton.mpr e)) roots_mem_gidsL

mutual
theorem linkT_wf : ∀ (t : GTree) (prev seen : List String), (∀ p ∈ prev, p ∈ seen) →
    wfLinks seen (linkT t prev)
  | .node s gs, prev, seen, h => by
    have ⟨h1, h2⟩ := linkGs_wf gs prev seen h
    rw [linkT]
    exact wfLinks_append h1
      ⟨fun p hp => linkGs_keys gs prev ▸ List.mem_append.mpr (h2 p hp), trivial⟩
theorem linkGs_wf : ∀ (gs : List (List GTree)) (prev seen : List String), (∀ p ∈ prev, p ∈ seen) →
    wfLinks seen (linkGs gs prev).1 ∧ ∀ p ∈ (linkGs gs prev).2, p ∈ gidsLL gs ∨ p ∈ seen
  | [], prev, seen, h => ⟨trivial, fun p hp => Or.inr (h p hp)⟩
  | g :: gs, prev, seen, h => by
    -- the next group's previous ids are this group's roots, emitted by now
    have ⟨h1, h2⟩ := linkGs_wf gs (g.map fun t => t.span.id) (gidsL g ++ seen)
      fun p hp => List.mem_append.mpr (Or.inl (roots_mem_gidsL hp))
    rw [linkGs, gidsLL]
    refine ⟨wfLinks_append (linkG_wf g prev seen h) (linkG_keys g prev ▸ h1), fun p hp => ?_⟩
    rw [List.mem_append]
    rcases h2 p hp with h3 | h3
    · exact Or.inl (Or.inr h3)
    · exact (List.mem_append.mp h3).imp_left Or.inl
theorem linkG_wf : ∀ (g : List GTree) (prev seen : List String), (∀ p ∈ prev, p ∈ seen) →
    wfLinks seen (linkG g prev)
  | [], _, _, _ => by rw [linkG]; trivial
  | t :: ts, prev, seen, h => by
    rw [linkG]
    exact wfLinks_append (linkT_wf t prev seen h)
      (linkG_wf ts prev _ fun p hp => List.mem_append.mpr (Or.inr (h p hp)))
end

/-- `linkT` returns the links of a trace in a linear extension of the previous-event relation: every previous id of an
event is the key of an earlier link. -/
theorem linkT_wellfounded (t : GTree) : wfLinks [] (linkT t []) :=
  linkT_wf t [] [] (by simp)

theorem arr_eq (c : Cfg) (s : Span) (cs : List Tree) :
    arr c (.node s cs) = .node s (arrange (fun g => g.span.typ) (fun g => g.span.start)
      (fun g => g.span.stop) c.async (c.groupMap s.typ) (cs.map (arr c))) := by
  rw [arr, List.map_attach_eq_pmap, List.pmap_eq_map]

theorem rename_eq (c : Cfg) (s : Span) (cs : List Tree) :
    rename c (.node s cs) =
      .node { s with typ := newTyp c s.typ (cs.map fun t => t.span.typ) } (cs.map (rename c)) := by
  rw [rename, List.map_attach_eq_pmap, List.pmap_eq_map]

theorem gidsL_eq_flatMap : ∀ (l : List GTree), gidsL l = l.flatMap GTree.ids
  | [] => by simp [gidsL]
  | t :: ts => by simp [gidsL, gidsL_eq_flatMap ts]

theorem gidsLL_flatten : ∀ (gs : List (List GTree)), gidsLL gs = gidsL gs.flatten
  | [] => by simp [gidsLL, gidsL]
  | g :: gs => by simp [gidsLL, gidsLL_flatten gs, gidsL_eq_flatMap]

open List in
theorem gidsL_perm {l l' : List GTree} (h : l ~ l') : gidsL l ~ gidsL l' := by
  rw [gidsL_eq_flatMap, gidsL_eq_flatMap]
  exact Perm.flatMap_right _ h

open List in
mutual
theorem arr_ids (c : Cfg) : ∀ (t : Tree), (arr c t).ids ~ t.ids
  | .node s cs => by
    rw [arr_eq]
    simp only [GTree.ids, Tree.ids, gidsLL_flatten]
    refine (perm_append_singleton _ _).trans (Perm.cons _ ?_)
    exact (gidsL_perm (arrange_perm _ _ _ _ _ _)).trans (arrL_ids c cs)
theorem arrL_ids (c : Cfg) : ∀ (cs : List Tree), gidsL (cs.map (arr c)) ~ idsL cs
  | [] => by simp [gidsL, idsL]
  | t :: ts => by
    simp only [List.map_cons, gidsL, idsL]
    exact Perm.append (arr_ids c t) (arrL_ids c ts)
end

mutual
theorem rename_ids (c : Cfg) : ∀ (t : Tree), (rename c t).ids = t.ids
  | .node s cs => by
    rw [rename_eq]
    simp only [Tree.ids, renameL_ids c cs]
theorem renameL_ids (c : Cfg) : ∀ (cs : List Tree), idsL (cs.map (rename c)) = idsL cs
  | [] => rfl
  | t :: ts => by simp only [List.map_cons, idsL, rename_ids c t, renameL_ids c ts]
end

/-- Renaming is decided on the ingested child types: `rename`'s defining equation by components, the children's
types taken before any renaming (`cs`, not `cs.map (rename c)`). That no storage or visiting order enters is not
stated: it is `rename` being a function of the tree (the code after fix eac3325). -/
theorem rename_order_free (c : Cfg) (s : Span) (cs : List Tree) :
    (rename c (.node s cs)).span.typ = newTyp c s.typ (cs.map fun t => t.span.typ) ∧
    (rename c (.node s cs)).kids = cs.map (rename c) := by
  rw [rename_eq]; exact ⟨rfl, rfl⟩

open List in
/-- Every span exactly once: the emitted events are a permutation of the trace's span ids. -/
theorem sequence_covers (c : Cfg) (t : Tree) :
    (sequence c t).2.map Prod.fst ~ t.ids := by
  simp only [sequence, linkT_keys]
  exact (arr_ids c (rename c t)).trans (Perm.of_eq (rename_ids c t))

/-- non-vacuity of `linkT`: three spans, the children in two consecutive groups. The arranged tree is written out by
hand; `arr` and `sequence` are not run. -/
example :
    let t := Tree.node ⟨"R", "T", 0, 9⟩ [.node ⟨"A", "T", 1, 5⟩ [], .node ⟨"B", "T", 6, 7⟩ []]
    (linkT (.node t.span [[.node ⟨"A", "T", 1, 5⟩ []], [.node ⟨"B", "T", 6, 7⟩ []]]) []) =
      [("A", []), ("B", ["A"]), ("R", ["B"])] := by decide +kernel

end O2P.Seq
