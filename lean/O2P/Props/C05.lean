import O2P.Props.C01
import O2P.Lemmas.ParseRender
import O2P.Lemmas.WriterVocab
/-!
# C05 — emitted PlantUML is well-formed and names exactly the observed events (partial)
The parser *is* the grammar of the dialect: a text `parse` accepts was accepted by the block parser (one
`@startuml`, at most one partition and one group, every block closed by its own terminator in nested order,
nothing after `@enduml`).  The writer is modelled (`O2P.Writer`, tied line by line to
`PUMLGraph.write_puml_string`); the walk that builds its graph is not.
-/
namespace O2P.Diagram

/-- C05 itself; not proved, decided by execution on the generated definitions.  `learn` as in `C01_full`, loops
run up to twice: whatever text the learner emits for the complete job set of `d` parses to a definition that
names exactly the events of `d`. -/
def C05_full (inF : Blk → Prop) (learn : List Job → String → Prop) : Prop :=
  ∀ d, inF d → ∀ text, learn (runs 2 d) text →
    ∃ d', parse text = .ok d' ∧ (∀ n, n ∈ names d' ↔ n ∈ names d)

theorem parse_ok_core (text : String) (d : Blk) (h : parse text = .ok d) : parseCore text = .ok d :=
  ((parse_ok_iff text d).mp h).1

/-- completeness of the grammar, at token level: the block parser `parseToks` recovers every normal-form block
diagram (`nfItems`), nested to any depth, from its token stream.  This is about `parseToks` only: `parse` also demands
that `break`/`detach` end their branch (`tailOk`), and so still rejects the normal-form body `[.brk, .ev "A"]`.  Lines
to tokens (`tokenize`) is string processing and not covered. -/
theorem grammar_complete (body : List Blk) (h : nfItems body = true) :
    parseToks (renderFile body) = .ok (.seq body) := by
  show parseToks (.startuml :: .partStart :: .groupStart :: (renderL body ++ .groupEnd :: [.partEnd, .enduml])) = _
  exact parseToks_frame (parse_renderL body h .groupEnd _ _ rfl
    (Nat.lt_succ_of_le (List.length_append ▸ Nat.le_add_right _ _)))

/-- non-vacuity: a loop ending in a fork, with an empty branch and a break -/
example :
    let body : List Blk := [.ev "A", .loop (.seq [.ev "B", .fork .xor [.seq [.ev "C", .brk], .seq []],
      .fork .and [.seq [.ev "D"], .seq [.ev "E", .detach]]])]
    nfItems body = true ∧ (parseToks (renderFile body)).toOption.isSome = true := by decide +kernel

/-- non-vacuity: a nested text is accepted; the same text with the fork closed by `repeat while`
(what the learner emits in class KF-B) and one with a `case` inside a `fork` are rejected -/
example :
    (parseToks [.startuml, .partStart, .groupStart, .ev "A", .repeat_, .ev "B", .open_ .and, .ev "C", .again .and,
       .ev "D", .close .and, .repeatWhile, .groupEnd, .partEnd, .enduml]).toOption.isSome = true ∧
    (parseToks [.startuml, .partStart, .groupStart, .ev "A", .repeat_, .ev "B", .open_ .and, .ev "C", .again .and,
       .ev "D", .repeatWhile, .groupEnd, .partEnd, .enduml]).toOption.isSome = false ∧
    (parseToks [.startuml, .partStart, .groupStart, .open_ .and, .ev "C", .again .xor, .ev "D", .close .and,
       .groupEnd, .partEnd, .enduml]).toOption.isSome = false := by decide +kernel

end O2P.Diagram

namespace O2P.Writer

/-- for every PUML graph, whatever the walk built, `write_puml_string` emits the fixed header, the fixed footer and
in between only lines that are, after their indentation, an operator string of the translated
`OPERATOR_NODE_PUML_MAP`, `detach`, `break`, `repeat`, `repeat while`, or `:name;` for an event node of the graph or
of one of its sub graphs.  So an event name in the file is always a node name (the "names ⊆" half of the clause):
a placeholder can leak only as the name of a node the walk left in the graph. -/
theorem writer_vocabulary (g : PGraph) (name : String) (tab : Nat) (text : String)
    (h : writePumlString g name tab = some text) :
    ∃ ls, text = "\n".intercalate (["@startuml", spaces tab ++ "partition \"" ++ name ++ "\" {",
        spaces (2 * tab) ++ "group \"" ++ name ++ "\""] ++ ls ++
        [spaces (2 * tab) ++ "end group", spaces tab ++ "}", "@enduml"]) ∧
      ∀ l ∈ ls, OkLine g.evNames l := by
  unfold writePumlString at h
  split at h
  · simp at h
  · rename_i ls hls
    simp only [Option.some.injEq] at h
    exact ⟨ls, h.symm, graphLines_ok _ g _ _ ls hls⟩

/-- non-vacuity: `A; switch { B | C }`, as the graph the walk builds, is written -/
example :
    (writePumlString (.mk [.ev "A" false, .oper .start .xor, .ev "B" false, .ev "C" false, .oper .end_ .xor]
      [[1], [2, 3], [4], [4], []]) "wf").isSome = true := by decide +kernel

end O2P.Writer

