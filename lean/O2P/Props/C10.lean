import O2P.Lemmas.StoreBasic
/-! # C10 — ingestion stores each span once whatever the batching or duplication -/
namespace O2P.Store

/-- store invariant: the two key constraints, and no link row outlives its child span (cleaning maintains the
clause, mirroring the code after fix d755109; without it ingestion can abort, `ingest_orphan_cex`) -/
structure Inv (s : Store) : Prop where
  ids : s.ids.Nodup
  links : s.assoc.Nodup
  noOrphan : ∀ l ∈ s.assoc, l.2 ∈ s.ids

theorem inv_empty : Inv Store.empty := ⟨List.nodup_nil, List.nodup_nil, nofun⟩

theorem insertNodes_eq (s : Store) (ns : List Node) :
    insertNodes s ns =
      if (ns.map (·.id)).Nodup ∧ ∀ n ∈ ns, n.id ∉ s.ids then some { s with nodes := s.nodes ++ ns } else none := by
  simp only [insertNodes, constraints_tie.1, Bool.true_and, Bool.not_eq_true', ← Bool.not_eq_true, Bool.and_eq_true,
    nodup_iff, List.all_eq_true, List.contains_iff_mem, ite_not]

theorem insertLinks_eq (s : Store) (ls : List Link) :
    insertLinks s ls =
      if ls.Nodup ∧ ∀ l ∈ ls, l ∉ s.assoc then some { s with assoc := s.assoc ++ ls } else none := by
  simp only [insertLinks, constraints_tie.2.1, Bool.true_and, Bool.not_eq_true', ← Bool.not_eq_true, Bool.and_eq_true,
    nodup_iff, List.all_eq_true, List.contains_iff_mem, ite_not]

theorem commitBatch_fresh {s : Store} (hs : Inv s) {ns : List Node} (h1 : (ns.map (·.id)).Nodup)
    (h2 : ∀ n ∈ ns, n.id ∉ s.ids) :
    commitBatch s ns (linksOf ns) =
      ({ s with nodes := s.nodes ++ ns, assoc := s.assoc ++ linksOf ns }, true) := by
  -- a link of the batch that is stored already would have its child stored: the child is new
  have hl : ∀ l ∈ linksOf ns, l ∉ s.assoc := fun l hl hmem => linksOf_fresh h2 l hl (hs.noOrphan l hmem)
  rw [commitBatch, insertNodes_eq, if_pos ⟨h1, h2⟩]
  simp only
  rw [insertLinks_eq, if_pos ⟨linksOf_nodup h1, hl⟩]

theorem newNodes_nodup (s : Store) (es : List Node) : ((newNodes s es).map (·.id)).Nodup :=
  map_filter_nodup _ (firstOcc_nodup es)

theorem newNodes_fresh (s : Store) (es : List Node) : ∀ n ∈ newNodes s es, n.id ∉ s.ids := by
  intro n hn
  simpa using (List.mem_filter.mp hn).2

theorem newNodes_of_fresh {s : Store} {es : List Node} (h1 : (es.map (·.id)).Nodup)
    (h2 : ∀ n ∈ es, n.id ∉ s.ids) : newNodes s es = es := by
  rw [newNodes, firstOcc_of_nodup h1, List.filter_eq_self]
  exact fun n hn => by simpa using h2 n hn

/-- the recovery path (`check_and_filter_non_unique_nodes_and_associations`) is exact, whatever duplicates the batch
holds -/
theorem commitUnique_spec (s : Store) (hs : Inv s) (q : List Node) :
    commitUnique s q (linksOf q) = (ingestSpec s q, .ok) := by
  unfold commitUnique
  by_cases h : (q.map (·.id)).Nodup ∧ ∀ n ∈ q, n.id ∉ s.ids
  · rw [commitBatch_fresh hs h.1 h.2]
    simp only [ingestSpec, newNodes_of_fresh h.1 h.2]
  · -- nothing of the failed statement is stored, and the retry commits exactly the new first occurrences
    rw [show commitBatch s q (linksOf q) = (s, false) by rw [commitBatch, insertNodes_eq, if_neg h]]
    simp only
    rw [← newNodes, commitBatch_fresh hs (newNodes_nodup s q) (newNodes_fresh s q)]
    rfl

theorem ingestSpec_ids (s : Store) (es : List Node) :
    (ingestSpec s es).ids = s.ids ++ (newNodes s es).map (·.id) := List.map_append

theorem ingestSpec_nodes (s : Store) (es : List Node) : (ingestSpec s es).nodes = s.nodes ++ newNodes s es := rfl

theorem ingestSpec_assoc (s : Store) (es : List Node) :
    (ingestSpec s es).assoc = s.assoc ++ linksOf (newNodes s es) := rfl

theorem mem_ingestSpec_ids (s : Store) (es : List Node) (x : String) :
    x ∈ (ingestSpec s es).ids ↔ x ∈ s.ids ∨ x ∈ es.map (·.id) := by
  rw [ingestSpec_ids, List.mem_append, ← mem_firstOcc_ids es x]
  by_cases hx : x ∈ s.ids
  · simp only [hx, true_or]
  · refine or_congr_right ?_
    simp only [newNodes, List.mem_map, List.mem_filter]
    exact ⟨fun ⟨n, hn, e⟩ => ⟨n, hn.1, e⟩, fun ⟨n, hn, e⟩ => ⟨n, ⟨hn, by simpa [e] using hx⟩, e⟩⟩

theorem ingestSpec_inv {s : Store} (hs : Inv s) (es : List Node) : Inv (ingestSpec s es) := by
  refine ⟨?_, ?_, ?_⟩
  · rw [ingestSpec_ids]
    refine List.nodup_append.mpr ⟨hs.ids, newNodes_nodup s es, ?_⟩
    rintro a ha _ hb rfl
    obtain ⟨n, hn, rfl⟩ := List.mem_map.mp hb
    exact newNodes_fresh s es n hn ha
  · refine List.nodup_append.mpr ⟨hs.links, linksOf_nodup (newNodes_nodup s es), ?_⟩
    rintro a ha _ hb rfl
    exact linksOf_fresh (newNodes_fresh s es) a hb (hs.noOrphan a ha)
  · intro l hl
    rw [ingestSpec_ids]
    exact List.mem_append.mpr ((List.mem_append.mp hl).imp (hs.noOrphan l) linksOf_snd)

theorem ingestSpec_append (s : Store) (a b : List Node) :
    ingestSpec (ingestSpec s a) b = ingestSpec s (a ++ b) := by
  have key : newNodes s (a ++ b) = newNodes s a ++ newNodes (ingestSpec s a) b := by
    unfold newNodes
    rw [firstOcc_append, List.filter_append, List.filter_filter]
    refine congrArg _ (List.filter_congr fun m _ => ?_)
    rw [Bool.eq_iff_iff]
    simp [mem_ingestSpec_ids]
  simp only [ingestSpec, key, linksOf_append, List.append_assoc]

/-- earliest start / latest end seen while ingesting a stream (what `DataHolder.save_data` tracks) -/
def minStart (mn : Int) (es : List Node) : Int := es.foldl (fun a n => min a n.start) mn
def maxStop (mx : Int) (es : List Node) : Int := es.foldl (fun a n => max a n.stop) mx

/-- loop invariant of ingestion: the pending links are those of the pending spans -/
theorem ingest_loop (batch : Nat) (s : Store) (hs : Inv s) (es : List Node) :
    ∀ (q : List Node) (mn mx : Int),
      ingest batch ⟨s, q, linksOf q, mn, mx⟩ es =
        (⟨ingestSpec s (q ++ es), [], [], minStart mn es, maxStop mx es⟩, .ok) := by
  induction es generalizing s with
  | nil =>
    intro q mn mx
    simp only [ingest, exitHolder, commitUnique_spec s hs q, List.append_nil, minStart, maxStop, List.foldl_nil]
  | cons n ns ih =>
    intro q mn mx
    have hl : linksOf q ++ (linkOf n).toList = linksOf (q ++ [n]) := by
      rw [linksOf_append]; congr 1  -- `linksOf [n]` computes to `(linkOf n).toList`
    simp only [ingest, saveData, hl]
    -- either way `ih` applies; the closing `rfl`s compute `[n] ++ ns` and the `cons` steps of `minStart`, `maxStop`
    by_cases hb : batch ≤ (q ++ [n]).length
    · simp only [hb, ite_true, commitUnique_spec s hs (q ++ [n])]
      -- the queue restarts empty: `ih` at `q := []`, where `linksOf []` is `[]` by computation
      refine (ih _ (ingestSpec_inv hs _) [] _ _).trans ?_
      rw [List.nil_append, ingestSpec_append, List.append_assoc]
      rfl
    · simp only [hb, ite_false]
      rw [ih s hs, List.append_assoc]
      rfl

theorem ingest_fresh (batch : Nat) (s : Store) (hs : Inv s) (es : List Node) :
    ingest batch (Holder.fresh s) es = (⟨ingestSpec s es, [], [], minStart maxInt64 es, maxStop 0 es⟩, .ok) :=
  ingest_loop batch s hs es [] maxInt64 0

/-- Ingestion ends `ok` with no span left pending, and the store is `ingestSpec`: the first occurrences of the new ids, in
stream order, each with its parent link. -/
theorem ingest_spec (batch : Nat) (s : Store) (hs : Inv s) (es : List Node) :
    (ingest batch (Holder.fresh s) es).2 = .ok ∧
    (ingest batch (Holder.fresh s) es).1.store = ingestSpec s es ∧
    (ingest batch (Holder.fresh s) es).1.pendNodes = [] := by
  rw [ingest_fresh batch s hs es]
  exact ⟨rfl, rfl, rfl⟩

theorem ingest_batch_independent (b b' : Nat) (s : Store) (hs : Inv s) (es : List Node) :
    (ingest b (Holder.fresh s) es).1.store = (ingest b' (Holder.fresh s) es).1.store := by
  rw [ingest_fresh b s hs es, ingest_fresh b' s hs es]

theorem reingest_noop (s : Store) (es : List Node) :
    ingestSpec (ingestSpec s es) es = ingestSpec s es := by
  have h : newNodes (ingestSpec s es) es = [] := by
    refine List.filter_eq_nil_iff.mpr fun n hn => ?_
    have := (mem_ingestSpec_ids s es n.id).mpr (.inr (List.mem_map.mpr ⟨n, (firstOcc_sublist es).mem hn, rfl⟩))
    simpa using this
  rw [ingestSpec, h]
  simp [linksOf]

theorem ingestSpec_empty_nodes (es : List Node) : (ingestSpec Store.empty es).nodes = firstOcc es :=
  (List.nil_append _).trans (List.filter_eq_self.mpr fun _ _ => rfl)

/-- Without `Inv.noOrphan`, `ingest_spec` is false (the counterexample of fix d755109): with a left-over link row
`(zz, c)`, ingesting `a` (stored) and `c` aborts: the retry inserts `c`, then its link collides. -/
theorem ingest_orphan_cex :
    let a : Node := ⟨"N", "j", "T", "a", 1, 2, "app", none⟩
    let c : Node := ⟨"N", "k", "T", "c", 1, 2, "app", some "zz"⟩
    let s : Store := ⟨[a], [("zz", "c")], []⟩
    (ingest 10 (Holder.fresh s) [a, c]).2 = .integrity := by decide

/-- non-vacuity: a duplicate inside a batch of three on the empty store -/
example :
    let a : Node := ⟨"N", "j", "T1", "a", 1, 2, "app", none⟩
    let a' : Node := ⟨"N", "j", "T2", "a", 3, 4, "app", some "x"⟩
    let b : Node := ⟨"N", "j", "T3", "b", 5, 6, "app", some "a"⟩
    ((ingest 3 (Holder.fresh Store.empty) [a, a', b]).1.store.nodes = [a, b]) ∧
    ((ingest 3 (Holder.fresh Store.empty) [a, a', b]).1.store.assoc = [("a", "b")]) := by decide

end O2P.Store
