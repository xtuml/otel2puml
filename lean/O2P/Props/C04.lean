import O2P.Lemmas.LearnAlg
import O2P.Lemmas.Lists
/-!
# C04 — updating a saved model equals learning from all data at once (model layer)
The model file loses nothing (`json_roundtrip`), so learning in chunks with a save and a load at every boundary
gives a model equivalent to the one-shot model (`update_through_file`; `chunks_through_files`, stated with `reload`).
That equivalent models give equivalent diagrams is C03's unproved clause (`C03_walk_full`).
-/
namespace O2P.Learn

theorem ingest_append (m : Model) (a b : List (List PV)) : ingest m (a ++ b) = ingest (ingest m a) b := by
  unfold ingest; rw [List.foldl_append]

theorem dedupS_eq : dedupS = firsts (· == ·) := by
  funext l
  induction l with
  | nil => rfl
  | cons t ts ih => rw [dedupS, firsts, ih]; rfl

theorem mem_dedupS (l : List String) (x : String) : x ∈ dedupS l ↔ x ∈ l :=
  dedupS_eq ▸ mem_firsts fun _ _ => beq_iff_eq

theorem nodup_dedupS (l : List String) : (dedupS l).Nodup :=
  dedupS_eq ▸ firsts_nodup (fun _ _ => beq_iff_eq) l

theorem count_flatMap_replicate (a : String) (c : String → Nat) : ∀ (ds : List String), ds.Nodup →
    (ds.flatMap fun t => List.replicate (c t) t).count a = if a ∈ ds then c a else 0
  | [], _ => by simp
  | d :: ds, h => by
    obtain ⟨hd, hds⟩ := List.nodup_cons.mp h
    simp only [List.flatMap_cons, List.count_append, count_flatMap_replicate a c ds hds, List.count_replicate,
      List.mem_cons]
    by_cases e : d = a
    · subst e; simp [hd]
    · simp [e, Ne.symm e]

theorem fromCounts_toCounts (S : ESet) : (fromCounts (toCounts S)).Perm S := by
  rw [List.perm_iff_count]
  intro a
  have := count_flatMap_replicate a (fun t => S.count t) (dedupS S) (nodup_dedupS S)
  unfold fromCounts toCounts
  rw [List.flatMap_map, this]
  split
  · rfl
  · next h => exact (List.count_eq_zero_of_not_mem fun x => h ((mem_dedupS S a).mpr x)).symm

/-- a family read back from the file holds the same multisets -/
theorem famSem_roundtrip (fam : List ESet) (T : ESet) :
    famSem ((fam.map (fromCounts ∘ toCounts)).foldl fromJson.addSetRaw []) T ↔ famSem fam T := by
  rw [foldl_adds (famSem · T) _ (·.Perm T) (famSem_addSetRaw · · T)]
  unfold famSem
  simp only [List.not_mem_nil, false_and, exists_false, false_or, List.mem_map, Function.comp]
  constructor
  · rintro ⟨_, ⟨S, hS, rfl⟩, hp⟩
    exact ⟨S, hS, (fromCounts_toCounts S).symm.trans hp⟩
  · rintro ⟨S, hS, hp⟩
    exact ⟨_, ⟨S, hS, rfl⟩, (fromCounts_toCounts S).trans hp⟩

theorem nodupS_iff : ∀ (l : List String), nodupS l = true ↔ l.Nodup
  | [] => by simp [nodupS]
  | x :: xs => by simp [nodupS, nodupS_iff xs]

/-- what `fromJson (toJson m)` returns when the event types of `m` are distinct (`fromJson_toJson`) -/
def reload (m : Model) : Model :=
  m.map fun e => ⟨e.typ, (e.outs.map (fromCounts ∘ toCounts)).foldl fromJson.addSetRaw [],
    (e.ins.map (fromCounts ∘ toCounts)).foldl fromJson.addSetRaw []⟩

theorem fromJson_toJson (m : Model) (h : (m.map (·.typ)).Nodup) : fromJson (toJson m) = some (reload m) := by
  have := (nodupS_iff _).mpr h
  simp [fromJson, toJson, reload, this, Function.comp_def]

theorem equiv_reload (m : Model) : Equiv (reload m) m := by
  refine equiv_map (fun e φ => ?_) m
  cases φ with
  | type _ => exact Iff.rfl
  | out _ T => exact and_congr_right fun _ => famSem_roundtrip e.outs T
  | inn _ T => exact and_congr_right fun _ => famSem_roundtrip e.ins T

/-- what is loaded holds the same event types and successor and predecessor multisets as what was saved -/
theorem json_roundtrip (m : Model) (h : (m.map (·.typ)).Nodup) :
    ∃ m', fromJson (toJson m) = some m' ∧ Equiv m' m :=
  ⟨reload m, fromJson_toJson m h, equiv_reload m⟩

/-! ### event types stay distinct, so every model the learner produces can be saved and loaded -/

def TypesNodup (m : Model) : Prop := (m.map (·.typ)).Nodup

theorem typesNodup_ensure (m : Model) (t : String) (h : TypesNodup m) : TypesNodup (ensure m t) := by
  unfold ensure
  split
  · exact h
  · next ha => simpa [TypesNodup, List.nodup_append, show (m.map (·.typ)).Nodup from h] using ha

theorem typesNodup_map (m : Model) (f : Ev → Ev) (hf : ∀ e, (f e).typ = e.typ) (h : TypesNodup m) :
    TypesNodup (m.map f) := by
  unfold TypesNodup
  rwa [List.map_map, show ((·.typ) ∘ f) = (·.typ) from funext hf]

theorem typesNodup_modify (m : Model) (t : String) {g : Ev → Ev} (hg : ∀ e, (g e).typ = e.typ) (h : TypesNodup m) :
    TypesNodup ((ensure m t).map fun e => if e.typ == t then g e else e) :=
  typesNodup_map _ _ (fun e => by
    split
    · exact hg e
    · rfl) (typesNodup_ensure m t h)

theorem typesNodup_ingest (m : Model) (h : TypesNodup m) (jobs : List (List PV)) : TypesNodup (ingest m jobs) :=
  ingest_induction (fun m t _ => typesNodup_modify m t fun _ => rfl)
    (fun m t _ => typesNodup_modify m t fun _ => rfl) h jobs

theorem update_through_file (a b : List (List PV)) :
    ∃ m', fromJson (toJson (ingest [] a)) = some m' ∧ Equiv (ingest m' b) (ingest [] (a ++ b)) :=
  ⟨_, fromJson_toJson _ (typesNodup_ingest [] List.nodup_nil a),
    ingest_append [] a b ▸ ingest_congr b _ _ (equiv_reload _)⟩

/-- learning chunk after chunk, the model reloaded (`reload`) after every chunk -/
def throughFiles : Model → List (List (List PV)) → Model
  | m, [] => m
  | m, c :: cs => throughFiles (reload (ingest m c)) cs

theorem equiv_throughFiles : ∀ (chunks : List (List (List PV))) (m m0 : Model), Equiv m m0 →
    Equiv (throughFiles m chunks) (ingest m0 chunks.flatten)
  | [], _, _, he => he
  | c :: cs, m, m0, he => by
    rw [List.flatten_cons, ingest_append]
    exact equiv_throughFiles cs _ _ ((equiv_reload _).trans (ingest_congr c m m0 he))

/-- however the jobs are split into chunks.  Reloading is `reload`, which is what loading the saved model returns
when its event types are distinct; `ingest` keeps them so (`typesNodup_ingest`).  That `reload` does too, and
with it the statement about `fromJson (toJson _)` at every boundary, is not stated. -/
theorem chunks_through_files : ∀ (chunks : List (List (List PV))) (m m0 : Model), TypesNodup m → Equiv m m0 →
    Equiv (throughFiles m chunks) (ingest m0 chunks.flatten) :=
  fun chunks m m0 _ => equiv_throughFiles chunks m m0

section cache
variable {Tree : Type} (infer : List ESet → Tree)

/-- operations on one event -/
inductive Op where
  | update (S : ESet)
  | read
  | removeType (t : String)

def Cached.apply (c : Cached Tree) : Op → Cached Tree
  | .update S => c.update S
  | .read => (c.read infer).1
  | .removeType t => c.removeType t

/-- from a fresh event or one loaded from a model file, after any updates, reads and removals,
a read returns the tree inferred from the successor family the event holds *now*, if that is not empty —
evidence stored in the model is never ignored -/
theorem cache_coherent (c0 : Cached Tree) (h0 : c0 = Cached.fresh ∨ ∃ outs, c0 = Cached.load outs)
    (ops : List Op) :
    let c := ops.foldl (Cached.apply infer) c0
    c.outs ≠ [] → (c.read infer).2 = some (infer c.outs) := by
  refine List.foldlRecOn ops (Cached.apply infer)
    (motive := fun c => c.outs ≠ [] → (c.read infer).2 = some (infer c.outs)) ?_ fun c ih o _ => ?_
  · rcases h0 with rfl | ⟨outs, rfl⟩
    · exact fun h => absurd rfl h
    · intro (h : outs ≠ [])
      simp [Cached.load, Cached.read, h]
  · cases o with
    | update S =>
      show (c.update S).outs ≠ [] → ((c.update S).read infer).2 = some (infer (c.update S).outs)
      unfold Cached.update
      split
      · exact ih
      · exact fun _ => rfl
    | read =>
      show (c.read infer).1.outs ≠ [] → ((c.read infer).1.read infer).2 = some (infer (c.read infer).1.outs)
      by_cases hs : c.stale = true
      · simp [Cached.read, hs]
      · simpa [Cached.read, hs] using ih
    | removeType t => exact fun _ => rfl

/-- before fix bfaab07 a loaded event was not marked stale: reading it returned no tree although the file held
successor sets.  The input is a loaded event with two successor sets, as event B of the model learnt from ABED, ABFD, ACD
(DESIGN.md §6) has. -/
theorem cache_incoherent_old : ((Cached.loadOld [["F"], ["E"]] : Cached Tree).read infer).2 = none := rfl

end cache

example :
    let j1 : List PV := [⟨"j", "1", "A", []⟩, ⟨"j", "2", "B", ["1"]⟩, ⟨"j", "3", "B", ["1"]⟩, ⟨"j", "4", "D", ["2", "3"]⟩]
    toCounts (postTypes j1 ⟨"j", "1", "A", []⟩) = [("B", 2)] ∧
    (fromJson (toJson (ingest [] [j1]))).map (fun m => m.map fun e => (e.typ, e.outs, e.ins)) =
      some [("A", [["B", "B"]], [["|||START|||"]]), ("B", [["D"]], [["A"]]), ("D", [], [["B", "B"]]),
            ("|||START|||", [["A"]], [])] := by
  decide +kernel

end O2P.Learn
