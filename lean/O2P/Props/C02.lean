import O2P.Props.C01
/-!
# C02 — the learned diagram admits nothing beyond a complete sample (partial)
The learner is not modelled.  `subset_sound`: when the membership test rejects none of the jobs of the learned
diagram (loops up to `k`), `isoB` matches each of them with a job of the source; from there to `Iso` it takes
`isoB_sound`, for jobs with distinct ids.
-/
namespace O2P.Diagram

/-- C02 itself; not proved, decided by execution on generated definitions.  `learn` as in `C01_full`, loops run
up to twice: whatever text the learner emits for the complete job set of `d` parses to a definition all of whose
jobs `d` accepts. -/
def C02_full (inF : Blk → Prop) (learn : List Job → String → Prop) : Prop :=
  ∀ d, inF d → ∀ text, learn (runs 2 d) text →
    ∃ d', parse text = .ok d' ∧ ∀ j ∈ runs 2 d', accepts 2 d j = true

/-- the membership test over a list of jobs -/
def rejectedBy (k : Nat) (source : Blk) (jobs : List Job) : List Job := jobs.filter fun j => !accepts k source j

theorem subset_sound (k : Nat) (learned source : Blk) (h : rejectedBy k source (runs k learned) = []) :
    ∀ j ∈ runs k learned, ∃ r ∈ runs k source, isoB r j = true := by
  intro j hj
  obtain ⟨r, hr, _, _, hi⟩ := (accepts_iff k source j).mp (by simpa using List.filter_eq_nil_iff.mp h j hj)
  exact ⟨r, hr, hi⟩

/-- non-vacuity: of the jobs of `A; OR(B, C)` the source `A; XOR(B, C)` rejects exactly the one that runs both
branches -/
example :
    rejectedBy 1 (.seq [.ev "A", .fork .xor [.seq [.ev "B"], .seq [.ev "C"]]])
      (runs 1 (.seq [.ev "A", .fork .or [.seq [.ev "B"], .seq [.ev "C"]]])) =
      [[⟨0, "A", []⟩, ⟨1, "B", [0]⟩, ⟨2, "C", [0]⟩]] := by decide +kernel

end O2P.Diagram
