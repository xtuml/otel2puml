import O2P.Lemmas.GroupBy
import O2P.Lemmas.Lists
/-!
# C12 — every stored trace is streamed once, whole, under one workflow name
The batch size of `stream_data` does not occur in the model `stream` (cursor batching is runtime behaviour; the
correspondence varies it).
-/
namespace O2P.Store

/-- the order of `ORDER BY job_name, job_id` -/
def nodeLe (m n : Node) : Prop :=
  m.jobName < n.jobName ∨ (m.jobName = n.jobName ∧ m.jobId ≤ n.jobId)

/-- the test of `insertSorted` is the strict part of `nodeLe` -/
def nodeLt (m n : Node) : Bool :=
  m.jobName < n.jobName || (m.jobName == n.jobName && m.jobId < n.jobId)

theorem nodeLe_of_nodeLt (m n : Node) (h : nodeLt m n = true) : nodeLe m n := by
  simp only [nodeLt, Bool.or_eq_true, Bool.and_eq_true, decide_eq_true_eq, beq_iff_eq] at h
  exact h.imp_right fun ⟨e, h⟩ => ⟨e, String.not_lt.mp (String.lt_asymm h)⟩

theorem nodeLe_of_not_nodeLt (m n : Node) (h : nodeLt m n = false) : nodeLe n m := by
  simp only [nodeLt, Bool.or_eq_false_iff, Bool.and_eq_false_imp, decide_eq_false_iff_not, beq_iff_eq] at h
  by_cases h2 : n.jobName < m.jobName
  · exact Or.inl h2
  · have e := String.le_antisymm (String.not_lt.mp h2) (String.not_lt.mp h.1)
    exact Or.inr ⟨e.symm, String.not_lt.mp (h.2 e)⟩

theorem nodeLe_total (m n : Node) : nodeLe m n ∨ nodeLe n m := by
  cases h : nodeLt m n
  · exact Or.inr (nodeLe_of_not_nodeLt m n h)
  · exact Or.inl (nodeLe_of_nodeLt m n h)

theorem nodeLe_trans (a b c : Node) (h1 : nodeLe a b) (h2 : nodeLe b c) : nodeLe a c := by
  unfold nodeLe at *
  rcases h1 with h1 | ⟨e1, h1⟩ <;> rcases h2 with h2 | ⟨e2, h2⟩
  · exact Or.inl (String.lt_trans h1 h2)
  · exact Or.inl (e2 ▸ h1)
  · exact Or.inl (e1 ▸ h2)
  · exact Or.inr ⟨e1.trans e2, String.le_trans h1 h2⟩

theorem sortNodes_eq : sortNodes = insertionSort nodeLt := by
  have : insertSorted = orderedInsert nodeLt := by
    funext x l; induction l <;> simp [insertSorted, orderedInsert, nodeLt, *]
  funext l; rw [sortNodes, this]; rfl

open List in
theorem sortNodes_perm (l : List Node) : sortNodes l ~ l :=
  sortNodes_eq ▸ insertionSort_perm l

theorem sortNodes_sorted (l : List Node) : (sortNodes l).Pairwise nodeLe :=
  sortNodes_eq ▸ insertionSort_sorted nodeLe_of_nodeLt nodeLe_of_not_nodeLt nodeLe_trans l

/-- the rows the stream selects, in `ORDER BY job_name, job_id` order -/
def selected (s : Store) (filt : Option (List (String × List String))) : List Node :=
  sortNodes (s.nodes.filter (passes filt))

theorem stream_eq (s : Store) (filt : Option (List (String × List String))) :
    stream s filt = (groupBy (·.jobName) (selected s filt)).map fun p => (p.1, groupBy (·.jobId) p.2) := rfl

theorem selected_names_sorted (s : Store) (filt) :
    (selected s filt).Pairwise (fun a b => a.jobName ≤ b.jobName) :=
  (sortNodes_sorted _).imp fun h =>
    h.elim (fun h => String.not_lt.mp (String.lt_asymm h)) fun ⟨e, _⟩ => e ▸ String.le_refl _

open List in
/-- Nothing dropped or duplicated: the spans streamed are a permutation of the stored spans that pass the filter. -/
theorem stream_flatten_perm (s : Store) (filt : Option (List (String × List String))) :
    (((stream s filt).map fun p => (p.2.map (·.2)).flatten).flatten) ~ s.nodes.filter (passes filt) := by
  simp only [stream_eq, List.map_map, Function.comp_def, groupBy_flatten]
  exact sortNodes_perm _

/-- `stream_data` opens one group per workflow name: `groupby` over rows in `ORDER BY job_name` order never meets a
name a second time. -/
theorem stream_names_nodup (s : Store) (filt : Option (List (String × List String))) :
    ((stream s filt).map (·.1)).Nodup := by
  simp only [stream_eq, List.map_map, Function.comp_def]
  exact groupBy_keys_chain _ _ (selected_names_sorted s filt)

/-- Each trace once and whole: under a name every trace id occurs once, and its group is exactly the selected spans
with that name and trace id. -/
theorem stream_group_spec (s : Store) (filt : Option (List (String × List String)))
    (nm : String) (jobs : List (String × List Node)) (h : (nm, jobs) ∈ stream s filt) :
    (jobs.map (·.1)).Nodup ∧
    ∀ jid g, (jid, g) ∈ jobs →
      g = (selected s filt).filter (fun n => decide (n.jobName = nm) && decide (n.jobId = jid)) := by
  rw [stream_eq, List.mem_map] at h
  obtain ⟨⟨nm', grp⟩, hmem, e⟩ := h
  cases e
  have hgrp := groupBy_eq_filter (fun n : Node => n.jobName) (selected s filt)
    (groupBy_keys_chain _ _ (selected_names_sorted s filt)) hmem
  -- inside a name group trace ids never decrease
  have hsorted : grp.Pairwise (fun a b : Node => a.jobId ≤ b.jobId) := by
    have hnm := (groupBy_members _ _ nm' grp hmem).2
    have hle : grp.Pairwise nodeLe := hgrp ▸ (sortNodes_sorted _).filter _
    refine (List.Pairwise.and_mem.mp hle).imp fun ⟨ha, hb, hab⟩ => hab.elim (fun hlt => ?_) (·.2)
    rw [hnm _ ha, hnm _ hb] at hlt
    exact absurd hlt (String.lt_irrefl _)
  have hnd := groupBy_keys_chain (fun n : Node => n.jobId) grp hsorted
  refine ⟨hnd, fun jid g hg => ?_⟩
  rw [groupBy_eq_filter (fun n : Node => n.jobId) grp hnd hg, hgrp, List.filter_filter]
  exact List.filter_congr fun x _ => Bool.and_comm _ _

/-- an empty filter map streams everything, like no filter (Python truthiness of `{}`) -/
theorem stream_filter_empty (s : Store) : stream s (some []) = stream s none := by
  have : passes (some []) = passes none := by funext n; rfl
  simp only [stream, this]

/-- non-vacuity: two names, interleaved storage -/
example :
    let a : Node := ⟨"w2", "j1", "T", "a", 1, 2, "app", none⟩
    let b : Node := ⟨"w1", "j1", "T", "b", 1, 2, "app", none⟩
    let c : Node := ⟨"w2", "j1", "T", "c", 1, 2, "app", some "a"⟩
    stream ⟨[a, b, c], [("a", "c")], []⟩ none = [("w1", [("j1", [b])]), ("w2", [("j1", [a, c])])] := by
  decide +kernel

end O2P.Store
