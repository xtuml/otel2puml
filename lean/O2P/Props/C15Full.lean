import O2P.Props.C15
import O2P.Lemmas.Rerun
/-!
# C15 — the answer clause in full
`hpl`, `hwin` are needed only by the runs that do not ingest (`noingest_fixpoint`): parents local to their trace in the
input (else a kept span may hang below a removed one, and a second cleaning removes it); every input span inside the
widest window, which such a run computes (true for real nanosecond timestamps and buffers of minutes).
-/
namespace O2P.Store

/-- the store the first run leaves (before any hash rows) -/
def firstStore (w : Int × Int) (es : List Node) : Store :=
  renameByRoot (removals w (ingestSpec Store.empty es))

theorem firstStore_nodes (w : Int × Int) (es : List Node) :
    (firstStore w es).nodes = renameNodes (kept w (ingestSpec Store.empty es)) := by
  rw [firstStore, renameByRoot_nodes, removals_nodes w (ingestSpec_inv inv_empty es) (ingestSpec_faithful es)]

theorem firstStore_inv (w : Int × Int) (es : List Node) : Inv (firstStore w es) ∧ Faithful (firstStore w es) := by
  rw [firstStore, ← clean_eq]
  exact clean_inv w _ (ingestSpec_inv inv_empty es) (ingestSpec_faithful es)

theorem runSpec_fresh {buffer : Int} {es : List Node} {w : Int × Int} (hw : runWindow buffer true es = some w)
    (uq : Bool) : runSpec buffer true uq es Store.empty = finishRun uq w (firstStore w es) := by
  rw [runSpec_some hw, if_pos rfl, clean_eq, firstStore]

/-- A run on whatever the first run left (up to hash rows), ingesting the same input again or not, has the status, spans
and links of a fresh run with the same unique flag, and in unique-graph mode, when that run is ok, its hash rows.
`hw`, `hw'`: the two windows exist. -/
theorem rerun_same_answer (buffer : Int) (es : List Node) (w w' : Int × Int)
    (hw : runWindow buffer true es = some w) (hw' : runWindow buffer false es = some w')
    (hpl : ParentLocal (firstOcc es)) (hwin : ∀ n ∈ es, inWindow w' n = true)
    (t : Store) (ht : SameNA t (firstStore w es)) (ing uq : Bool) :
    (runSpec buffer ing uq es t).2 = (runSpec buffer true uq es Store.empty).2 ∧
    SameNA (runSpec buffer ing uq es t).1 (runSpec buffer true uq es Store.empty).1 ∧
    (uq = true → (runSpec buffer true uq es Store.empty).2 = .ok →
      (runSpec buffer ing uq es t).1.hashes = (runSpec buffer true uq es Store.empty).1.hashes) := by
  obtain ⟨fi, ff⟩ := firstStore_inv w es
  have hi : Inv t := ht.inv fi
  have hf : Faithful t := ht.faithful ff
  have htn : t.nodes = renameNodes (kept w (ingestSpec Store.empty es)) := ht.1.trans (firstStore_nodes w es)
  -- this run ends as the first one did: cleaning gives the first store again (the two fixpoint lemmas, which write
  -- `SameNA` out), and its window selects the same rows
  have key : (runSpec buffer ing uq es t).2 = (finishRun uq w (firstStore w es)).2 ∧
      SameNA (runSpec buffer ing uq es t).1 (finishRun uq w (firstStore w es)).1 ∧
      (uq = true → (runSpec buffer ing uq es t).2 = .ok →
        (runSpec buffer ing uq es t).1 = (finishRun uq w (firstStore w es)).1) := by
    cases ing with
    | true =>
      rw [runSpec_some hw, if_pos rfl, clean_eq]
      have sna : SameNA (renameByRoot (removals w (ingestSpec t es))) (firstStore w es) :=
        .trans (reingest_fixpoint w es t htn hi hf) ht
      exact finishRun_congr uq sna (sna.computeHashes w)
    | false =>
      rw [runSpec_some hw', if_neg Bool.false_ne_true, clean_eq]
      have sna : SameNA (renameByRoot (removals w' t)) (firstStore w es) :=
        .trans (noingest_fixpoint w w' es t htn hi hf hpl hwin) ht
      refine finishRun_congr uq sna ((sna.computeHashes w').trans (computeHashes_window w' w _ fun n hn => ?_))
      -- every trace of the first store touches both windows
      have ht' := firstStore_nodes w es
      rw [contains_jobsInWindow, contains_jobsInWindow, cleaned_touches ht' hn]
      exact touchesWindow_of_mem hn (cleaned_inWindow ht' (inWindow_ingested hwin) hn)
  rw [runSpec_fresh hw]
  exact ⟨key.1, key.2.1, fun hu ho => congrArg Store.hashes (key.2.2 hu (key.1.trans ho))⟩

theorem fresh_sameNA (buffer : Int) (es : List Node) (w : Int × Int) (hw : runWindow buffer true es = some w)
    (uq : Bool) : SameNA (runSpec buffer true uq es Store.empty).1 (firstStore w es) := by
  rw [runSpec_fresh hw]
  exact finishRun_sameNA uq w _

/-- every run of a history answers like a fresh run: `(batch size, ingest, unique)` per run -/
def AllSame (buffer : Int) (es : List Node) : List (Nat × Bool × Bool) → Store → Prop
  | [], _ => True
  | (b, ing, uq) :: rest, t =>
    (runOnce b buffer ing uq es t).2 = (runSpec buffer true uq es Store.empty).2 ∧
    SameNA (runOnce b buffer ing uq es t).1 (runSpec buffer true uq es Store.empty).1 ∧
    (uq = true → (runSpec buffer true uq es Store.empty).2 = .ok →
      (runOnce b buffer ing uq es t).1.hashes = (runSpec buffer true uq es Store.empty).1.hashes) ∧
    AllSame buffer es rest (runOnce b buffer ing uq es t).1

/-- `rerun_same_answer` run by run along every history of later runs with any batch sizes: each has the status, spans
and links of a fresh run with its unique flag on an empty database and, in unique-graph mode when that run is ok, its
hash rows (hence its shape classes). Same hypotheses: the first, ingesting run computed a window (`hw`), a run that does
not ingest computes one (`hw'`), `hpl`, `hwin`. -/
theorem history_same_answer (buffer : Int) (es : List Node) (w w' : Int × Int)
    (hw : runWindow buffer true es = some w) (hw' : runWindow buffer false es = some w')
    (hpl : ParentLocal (firstOcc es)) (hwin : ∀ n ∈ es, inWindow w' n = true) :
    ∀ (fl : List (Nat × Bool × Bool)) (t : Store), SameNA t (firstStore w es) → AllSame buffer es fl t
  | [], _, _ => trivial
  | (b, ing, uq) :: rest, t, ht => by
    have hi : Inv t := ht.inv (firstStore_inv w es).1
    have h := rerun_same_answer buffer es w w' hw hw' hpl hwin t ht ing uq
    unfold AllSame
    rw [runOnce_eq_spec b buffer ing uq es t hi]
    refine ⟨h.1, h.2.1, h.2.2, ?_⟩
    exact history_same_answer buffer es w w' hw hw' hpl hwin rest _
      (h.2.1.trans (fresh_sameNA buffer es w hw uq))

/-- the first run, with any batch size and unique flag, leaves such a store `t` -/
theorem first_run_sameNA (batch : Nat) (buffer : Int) (es : List Node) (w : Int × Int)
    (hw : runWindow buffer true es = some w) (uq : Bool) :
    SameNA (runOnce batch buffer true uq es Store.empty).1 (firstStore w es) := by
  rw [runOnce_eq_spec batch buffer true uq es Store.empty inv_empty]
  exact fresh_sameNA buffer es w hw uq

private def sp (j id typ : String) (st en : Int) (p : Option String) : Node := ⟨"wf", j, typ, id, st, en, "app", p⟩

/-- non-vacuity of the hypotheses on a realistic input: both windows exist, every span lies inside the second, the first
store is not empty. `hpl` is not evaluated; it holds: the only stored parent is `r1`, in `a1`'s trace. -/
example :
    let T : Int := 1700000000000000000
    let es := [sp "t1" "r1" "R" T (T + 90) none, sp "t1" "a1" "A" (T + 10) (T + 20) (some "r1"),
               sp "t2" "r2" "R" (T + 100) (T + 190) none, sp "t2" "d2" "D" (T + 110) (T + 120) (some "lost")]
    runWindow 0 true es = some (T, T + 190) ∧ runWindow 0 false es = some (0, maxInt64) ∧
    (es.all fun n => inWindow (0, maxInt64) n) = true ∧
    ((firstStore (T, T + 190) es).nodes.map (·.id)) = ["r1", "a1"] := by
  decide

end O2P.Store
