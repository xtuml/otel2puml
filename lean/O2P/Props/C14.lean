import O2P.Props.C03
/-!
# C14 — otel2puml equals otel2pv followed by pv2puml through saved files (file layer)
`save` models `save_pv_event_stream_to_file` with a `PVEventMappingConfig`, `load` models
`transform_dict_into_pv_event`.  The two routes learn equivalent models (`routes_same_model`); equivalence of
their *diagrams* then rests on C03's unproved clause.
-/
namespace O2P.PVFile

inductive Val where
  | str (s : String)
  | list (l : List String)
  deriving DecidableEq, Repr

structure PVE where
  jobId : String
  eventId : String
  typ : String
  timestamp : String
  prev : List String
  app : String
  jobName : String
  deriving DecidableEq, Repr

/-- `PVEventMappingConfig`: the name each field is saved under -/
structure Cfg where
  jobId : String
  eventId : String
  typ : String
  timestamp : String
  prev : String
  app : String
  jobName : String
  deriving Repr

def Cfg.names (c : Cfg) : List String := [c.jobId, c.eventId, c.typ, c.timestamp, c.prev, c.app, c.jobName]

def Cfg.default : Cfg :=
  ⟨"jobId", "eventId", "eventType", "timestamp", "previousEventIds", "applicationName", "jobName"⟩

abbrev Dict := List (String × Val)

/-- `d[k] = v` -/
def dset (d : Dict) (k : String) (v : Val) : Dict :=
  if d.any (·.1 == k) then d.map fun p => if p.1 == k then (k, v) else p else d ++ [(k, v)]

def dget (d : Dict) (k : String) : Option Val := (d.find? (·.1 == k)).map (·.2)

/-- `{getattr(mapping_config, key): value for key, value in pv_event.items()}` in the key order the
sequencer builds a `PVEvent` in -/
def save (c : Cfg) (e : PVE) : Dict :=
  dset (dset (dset (dset (dset (dset (dset [] c.jobId (.str e.jobId)) c.eventId (.str e.eventId)) c.typ (.str e.typ))
    c.timestamp (.str e.timestamp)) c.prev (.list e.prev)) c.app (.str e.app)) c.jobName (.str e.jobName)

def getStr (d : Dict) (k : String) : Except String String :=
  match dget d k with
  | some (.str s) => .ok s
  | some (.list _) => .error "validation"
  | none => .error "missing"

def getPrev (d : Dict) (k : String) : Except String (List String) :=
  match dget d k with
  | none => .ok []
  | some (.list l) => .ok l
  | some (.str s) => if s.isEmpty then .error "validation" else .ok [s]

/-- `transform_dict_into_pv_event` -/
def load (c : Cfg) (d : Dict) : Except String PVE := do
  let jobId ← getStr d c.jobId
  let eventId ← getStr d c.eventId
  let typ ← getStr d c.typ
  let timestamp ← getStr d c.timestamp
  let app ← getStr d c.app
  let jobName ← getStr d c.jobName
  let prev ← getPrev d c.prev
  pure { jobId, eventId, typ, timestamp, prev, app, jobName }

theorem dget_dset (d : Dict) (k k' : String) (v : Val) :
    dget (dset d k v) k' = if k' = k then some v else dget d k' := by
  unfold dget dset
  split
  · next h =>
    -- the replacement keeps every key, so the same entry is found
    have hF : ((·.1 == k') ∘ fun p : String × Val => if p.1 == k then (k, v) else p) = (·.1 == k') :=
      funext fun p => by
        show ((if p.1 == k then (k, v) else p).1 == k') = (p.1 == k')
        split
        · next hp => rw [eq_of_beq hp]
        · rfl
    rw [List.find?_map, hF]
    cases hf : d.find? (·.1 == k') with
    | none =>
      have hk : k' ≠ k := by
        rintro rfl
        obtain ⟨x, hx, hxk⟩ := List.any_eq_true.mp h
        exact List.find?_eq_none.mp hf x hx hxk
      simp [hk]
    | some q =>
      have hq : q.1 = k' := by simpa using List.find?_some hf
      by_cases e : k' = k <;> simp [hq, e]
  · next h =>
    rw [List.find?_append]
    cases hf : d.find? (·.1 == k') with
    | none => by_cases e : k' = k <;> simp [e, eq_comm (a := k)]
    | some q =>
      have hk : k' ≠ k := by
        rintro rfl
        have hq := List.find?_some hf
        exact h (List.any_eq_true.mpr ⟨q, List.mem_of_find?_eq_some hf, hq⟩)
      simp [hk]

/-- with pairwise distinct target names, loading what was saved returns the event -/
theorem save_load (c : Cfg) (hc : c.names.Nodup) (e : PVE) : load c (save c e) = .ok e := by
  simp only [Cfg.names, List.nodup_cons, List.mem_cons, List.not_mem_nil, or_false, not_or] at hc
  -- each of the seven lookups passes the writes under the later names and stops at its own
  simp only [load, save, getStr, getPrev, dget_dset, hc, ↓reduceIte]
  rfl

/-- a non-empty string under `previousEventIds` loads as a one-element list -/
theorem load_string_prev (d : Dict) (k p : String) (hp : p.isEmpty = false) :
    getPrev (dset d k (.str p)) k = .ok [p] := by
  simp [getPrev, dget_dset, hp]

/-- with two equal target names a field is lost: distinctness is needed -/
theorem save_load_dup_cex :
    let c : Cfg := { Cfg.default with app := "jobName" }
    let e : PVE := ⟨"j", "e", "T", "ts", [], "app", "name"⟩
    (load c (save c e)).toOption = some { e with app := "name" } := by decide

def toLearn (e : PVE) : O2P.Learn.PV := ⟨e.jobId, e.eventId, e.typ, e.prev⟩

/-- what pv2puml reads back from the files of one saved job -/
def reread (c : Cfg) (job : List PVE) : List PVE :=
  job.filterMap fun e => match load c (save c e) with
    | .ok x => some x
    | .error _ => none

theorem reread_id (c : Cfg) (hc : c.names.Nodup) (job : List PVE) : reread c job = job := by
  simp [reread, save_load c hc]

open List in
/-- the in-memory route presents the learner with `jobs`, the file route with the saved jobs read back, in
whatever order the directory is listed: with distinct target names the two learn equivalent models -/
theorem routes_same_model (c : Cfg) (hc : c.names.Nodup) (jobs files : List (List PVE))
    (hfiles : files ~ jobs.map (reread c)) :
    O2P.Learn.Equiv (O2P.Learn.ingest [] (files.map (·.map toLearn)))
      (O2P.Learn.ingest [] (jobs.map (·.map toLearn))) := by
  rw [List.map_id'' (reread_id c hc)] at hfiles
  exact O2P.Learn.ingest_perm [] (hfiles.map _)

/-- non-vacuity: a custom mapping with renamed keys round-trips an event with two links -/
example :
    let c : Cfg := ⟨"JID", "EID", "kind", "time", "prev", "app", "wf"⟩
    let e : PVE := ⟨"j1", "e3", "C", "2024-01-01T00:00:00.000001Z", ["e1", "e2"], "svc", "wf 1"⟩
    c.names.Nodup ∧ (load c (save c e)).toOption = some e ∧ dget (save c e) "prev" = some (.list ["e1", "e2"]) := by decide +kernel

end O2P.PVFile
