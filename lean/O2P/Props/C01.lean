import O2P.Lemmas.IsoB
/-!
# C01 — the learned diagram accepts every job it was learned from (partial)
The learner is not modelled.  What is proved is about the judge: for a job with distinct ids, acceptance is
exactly "isomorphic to an execution of the definition" (`accepts_iff_iso`); a rejection is never the search's fault.
-/
namespace O2P.Diagram

/-- C01 itself; not proved, decided by execution on generated definitions.  `learn` stands for
`pv_to_puml_string` (a relation: container order makes it non-deterministic): whatever text the learner emits
for the complete job set of a definition of the fragment, for any `k`, parses and accepts each of those jobs. -/
def C01_full (inF : Blk → Prop) (learn : List Job → String → Prop) : Prop :=
  ∀ d, inF d → ∀ k, ∀ text, learn (runs k d) text →
    ∃ d', parse text = .ok d' ∧ ∀ j ∈ runs k d, accepts k d' j = true

theorem parse_ok_iff (text : String) (d : Blk) : parse text = .ok d ↔ parseCore text = .ok d ∧ tailOk d = true := by
  unfold parse
  cases parseCore text with
  | error e => simp
  | ok d' =>
    dsimp only
    split
    · rename_i ht
      exact ⟨fun e => ⟨e, Except.ok.inj e ▸ ht⟩, (·.1)⟩
    · rename_i ht
      exact ⟨nofun, fun ⟨e, h⟩ => absurd (Except.ok.inj e ▸ h) ht⟩

/-- a parsed text has `break`/`detach` only as the last item of a branch -/
theorem parse_ok_tail (text : String) (d : Blk) (h : parse text = .ok d) : tailOk d = true :=
  ((parse_ok_iff text d).mp h).2

/-! ### non-vacuity -/

example : (runs 2 (.seq [.ev "A", .loop (.seq [.ev "B"])])).length = 2 := by decide +kernel

example : accepts 2 (.seq [.ev "A", .fork .and [.seq [.ev "B"], .seq [.ev "C"]], .ev "D"])
    [⟨7, "A", []⟩, ⟨9, "C", [7]⟩, ⟨8, "B", [7]⟩, ⟨3, "D", [9, 8]⟩] = true := by decide +kernel

end O2P.Diagram
