/-!
# C07 — loop extraction leaves an acyclic, complete, non-overlapping nesting
Certificate checkers for directed graphs over event types, each with the theorem that says what its answer
means.  The certificates (orders, the assignment of events to loop bodies) are read off what
`detect_loops` returns; the checkers run on the *input* directly-follows graph, so the tool's own rewiring is
not trusted.
-/
namespace O2P.Graph

abbrev Edge := String × String

def idx (ord : List String) (x : String) : Nat := ord.idxOf x

/-- a walk along edges: `Walk edges u v path` where `path` lists the nodes visited after `u` -/
inductive Walk (edges : List Edge) : String → String → List String → Prop
  | single {u v} : (u, v) ∈ edges → Walk edges u v [v]
  | cons {u w v p} : (u, w) ∈ edges → Walk edges w v p → Walk edges u v (w :: p)

def isTopo (ord : List String) (edges : List Edge) : Bool :=
  edges.all fun (u, v) => ord.contains u && ord.contains v && idx ord u < idx ord v

theorem isTopo_edge {ord edges} (h : isTopo ord edges = true) {u v} (he : (u, v) ∈ edges) :
    idx ord u < idx ord v := by
  have := List.all_eq_true.mp h (u, v) he
  simp only [Bool.and_eq_true, decide_eq_true_eq] at this
  exact this.2

/-- contracting every part (loop body) to one node gives a graph ordered by `ord` -/
def contractOK (part : String → String) (ord : List String) (edges : List Edge) : Bool :=
  edges.all fun (u, v) => part u == part v || idx ord (part u) < idx ord (part v)

theorem contract_edge {part ord edges} (h : contractOK part ord edges = true) {u v} (he : (u, v) ∈ edges) :
    part u = part v ∨ idx ord (part u) < idx ord (part v) := by
  simpa using List.all_eq_true.mp h (u, v) he

/-- along a walk the rank of the part never falls, and if the walk ends at the rank it began at, nothing on it
ever left the part it began in -/
theorem walk_parts {part ord edges} (h : contractOK part ord edges = true) {u v p} (w : Walk edges u v p) :
    idx ord (part u) ≤ idx ord (part v) ∧
      (idx ord (part v) ≤ idx ord (part u) → ∀ x ∈ p, part x = part u) := by
  induction w with
  | single he =>
    rcases contract_edge h he with e | e
    · exact ⟨Nat.le_of_eq (congrArg _ e), fun _ x hx => by rw [List.mem_singleton.mp hx, e]⟩
    · exact ⟨Nat.le_of_lt e, fun hr => absurd e (Nat.not_lt.mpr hr)⟩
  | cons he _ ih =>
    rcases contract_edge h he with e | e
    · rw [e]
      exact ⟨ih.1, fun hr x hx => (List.mem_cons.mp hx).elim (fun e => e ▸ rfl) (ih.2 hr x)⟩
    · exact ⟨Nat.le_trans (Nat.le_of_lt e) ih.1, fun hr => absurd (Nat.lt_of_lt_of_le e ih.1) (Nat.not_lt.mpr hr)⟩

/-- every cyclic dependency of the input lies inside one loop body -/
theorem cycle_in_one_part {part ord edges} (h : contractOK part ord edges = true) (v : String) (p : List String)
    (w : Walk edges v v p) : ∀ x ∈ p, part x = part v :=
  (walk_parts h w).2 (Nat.le_refl _)

/-- an event that is a part of its own (in no loop body) and has no edge to itself lies on no cycle -/
theorem no_cycle_outside_loops {part ord edges} (h : contractOK part ord edges = true) (v : String)
    (hv : ∀ x, part x = part v → x = v) (hself : (v, v) ∉ edges) : ∀ p, ¬ Walk edges v v p := by
  intro p w
  cases w with
  | single he => exact hself he
  | @cons _ w _ p he wk =>
    obtain rfl := hv w (cycle_in_one_part h v (w :: p) (.cons he wk) w List.mem_cons_self)
    exact hself he

/-- no cycle, not even a self loop: the order is a contraction in which every node is a part of its own -/
theorem isTopo_acyclic {ord edges} (h : isTopo ord edges = true) : ∀ v p, ¬ Walk edges v v p := fun v =>
  no_cycle_outside_loops (part := id) (List.all_eq_true.mpr fun ⟨_, _⟩ he => by simpa using .inr (isTopo_edge h he))
    v (fun _ e => e) fun he => Nat.lt_irrefl _ (isTopo_edge h he)

/-- the events found across the whole nesting are the input's events, none lost, none duplicated -/
def exactlyOnce (leaves inputs : List String) : Bool := leaves.isPerm inputs

theorem exactlyOnce_iff (leaves inputs : List String) : exactlyOnce leaves inputs = true ↔ leaves.Perm inputs :=
  List.isPerm_iff

def singleEntry (nodes : List String) (edges : List Edge) : Bool :=
  (nodes.filter fun n => !(edges.any fun e => e.2 == n)).length == 1

theorem singleEntry_spec (nodes : List String) (edges : List Edge) (h : singleEntry nodes edges = true) :
    ∃ e, nodes.filter (fun n => !(edges.any fun ed => ed.2 == n)) = [e] :=
  List.length_eq_one_iff.mp (by simpa [singleEntry] using h)

/-! ### non-vacuity -/

/-- A → B → C → B, C → D with the loop body {B, C}: the contraction A, L, D is ordered, B ⇄ C is the
only cycle, and the unordered input is rejected -/
example :
    let edges : List Edge := [("A", "B"), ("B", "C"), ("C", "B"), ("C", "D")]
    let part : String → String := fun x => if x == "B" || x == "C" then "L" else x
    contractOK part ["A", "L", "D"] edges = true ∧ isTopo ["A", "B", "C", "D"] edges = false ∧
    isTopo ["A", "B", "C", "D"] [("A", "B"), ("B", "C"), ("C", "D")] = true ∧
    exactlyOnce ["B", "C", "A", "D"] ["A", "B", "C", "D"] = true ∧ exactlyOnce ["B", "A", "D"] ["A", "B", "C", "D"] = false := by
  decide +kernel

end O2P.Graph
