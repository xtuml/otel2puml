import O2P.Lemmas.JqTrie
/-!
# C13 — field-mapping extraction follows the documented path semantics
First the extraction model alone, then: the emitted jq query, evaluated by `eval`, yields exactly the model's
records.
-/
namespace O2P.Jq

/-- one record per combination of loop values: no field can drop or duplicate one -/
theorem extract_length (p : Program) (doc : Json) :
    (extract p doc).length = (bindings p.order doc).length := by
  rw [extract, List.length_map]

/-- the loop order of a chain of nested arrays hanging below slot `k` -/
def chainFrom : Nat → List (List String) → List (Nat × List String)
  | _, [] => []
  | k, c :: cs => (k, c) :: chainFrom (k + 1) cs

/-- the documented flattening: one environment per innermost element, listing its ancestors -/
def envs : Nat → List (List String) → List Json → List (List Json)
  | _, [], env => [env]
  | k, c :: cs, env => (items c (env.getD k .null)).flatMap fun x => envs (k + 1) cs (env ++ [x])

theorem envs_eq_loopEnvs : ∀ (cs : List (List String)) (k : Nat) (env : List Json),
    envs k cs env = loopEnvs (chainFrom k cs) env
  | [], _, _ => rfl
  | c :: cs, k, env => by
    rw [envs, chainFrom, loopEnvs, bindVar, List.flatMap_map]
    exact congrArg (List.flatMap · _) (funext fun x => envs_eq_loopEnvs cs (k + 1) (env ++ [x]))

/-- for a chain of nested arrays, `bindings` over the loop order `chainFrom 0 cs` enumerates exactly the documented
flattening, in order; `chainFrom` is written by hand here: no theorem says that `compile` yields it -/
theorem bindings_chain (cs : List (List String)) (doc : Json) :
    bindings (chainFrom 0 cs) doc = envs 0 cs [doc] := by
  rw [bindings_eq_loopEnvs, envs_eq_loopEnvs]

theorem envs_length : ∀ (cs : List (List String)) (k : Nat) (env e' : List Json), e' ∈ envs k cs env →
    ∃ suf, e' = env ++ suf ∧ suf.length = cs.length
  | [], _, env, e', h => ⟨[], by rw [List.mem_singleton.mp h, List.append_nil], rfl⟩
  | c :: cs, k, env, e', h => by
    obtain ⟨x, _, hx⟩ := List.mem_flatMap.mp h
    obtain ⟨suf, e1, e2⟩ := envs_length cs (k + 1) (env ++ [x]) e' hx
    exact ⟨x :: suf, by rw [e1, List.append_assoc]; rfl, congrArg (· + 1) e2⟩

def Leaf.slot : Leaf → Nat
  | .plain s _ => s
  | .lookup s _ _ _ _ => s

theorem Leaf.slot_eq (l : Leaf) : l.slot = l.slot' := by cases l <;> rfl

/-- outer values are repeated: a leaf that reads an outer level has, in every record of the inner levels, the
value it has for the outer element -/
theorem evalLeaf_outer (env suf : List Json) (l : Leaf) (h : l.slot < env.length) :
    evalLeaf (env ++ suf) l = evalLeaf env l :=
  evalLeaf_prefix env suf l (Leaf.slot_eq l ▸ h)

theorem evalField_outer (env suf : List Json) (s : Spec)
    (h : ∀ p ∈ s.parts, ∀ l ∈ p, l.slot < env.length) :
    evalField (env ++ suf) s = evalField env s := by
  have hp : s.parts.map (alt (env ++ suf)) = s.parts.map (alt env) :=
    List.map_congr_left fun p hp => alt_prefix env suf p fun l hl => Leaf.slot_eq l ▸ h p hp l hl
  rw [evalField, evalField, evalString_eq, evalString_eq, evalArray, evalArray, hp]

theorem path_null : ∀ (p : List String), path p .null = some .null
  | [] => rfl
  | _ :: p => path_null p

/-- a key that the object does not hold reads as null; so does anything below null -/
theorem plain_absent_null (env : List Json) (s : Nat) (kv : List (String × Json)) (k : String)
    (hs : env.getD s .null = .obj kv) (hk : ∀ p ∈ kv, p.1 ≠ k) (rest : List String) :
    evalLeaf env (.plain s (k :: rest)) = .null := by
  have hfind : kv.find? (·.1 == k) = none := List.find?_eq_none.mpr fun p hp h => hk p hp (eq_of_beq h)
  rw [evalLeaf, hs, path, field, hfind]
  exact congrArg (·.getD .null) (path_null rest)

/-- the `_` join is null-strict: one absent part makes the whole value null (never a partial name) -/
theorem evalString_null_part (env : List Json) (parts : List (List Leaf)) (p : List Leaf) (hp : p ∈ parts)
    (hn : alt env p = .null) : evalString env parts = .null := by
  rw [evalString_eq, if_pos (List.any_eq_true.mpr ⟨_, List.mem_map_of_mem hp, by rw [hn]; rfl⟩)]

/-- per-line mode treats every line as a document of its own; what one document yields never depends on
another -/
theorem source_append (p : Program) (a b : List Json) : source p (a ++ b) = source p a ++ source p b :=
  List.flatMap_append

/-- a record that does not validate is skipped without affecting the records around it -/
theorem skip_independent (rs₁ rs₂ : List Record) (bad : Record) (h : validate bad = none) :
    (rs₁ ++ [bad] ++ rs₂).filterMap validate = rs₁.filterMap validate ++ rs₂.filterMap validate := by
  simp [List.filterMap_append, h]

theorem source_invalid_doc (p : Program) (a b : List Json) (d : Json)
    (h : ∀ r ∈ extract p d, validate r = none) : source p (a ++ [d] ++ b) = source p (a ++ b) := by
  have hd : source p [d] = [] := (List.flatMap_singleton _ d).trans (List.filterMap_eq_nil_iff.mpr h)
  rw [source_append, source_append, hd, List.append_nil, ← source_append]

/-! ### non-vacuity -/

private def attr (k v : String) : Json := .obj [("key", .str k), ("value", .str v)]
private def doc : Json := .obj [("rs", .arr [
  .obj [("name", .str "G"), ("spans", .arr [
    .obj [("id", .str "s1"), ("attributes", .arr [attr "m" "GET", attr "r" "200"])],
    .obj [("id", .str "s2")]])]])]

/-- header value repeated, key/value lookup, `_` join, absent value null; the program is what `compile` yields
for `rs.[].spans.[].id`, `rs.[].name` and `rs.[].name` + lookup of `m` in `rs.[].spans.[].attributes.[].key` -/
example :
    let p : Program := { order := [(0, ["rs"]), (1, ["spans"])], fields := [
      ("event_id", ⟨[[.plain 2 ["id"]]], false⟩),
      ("job_name", ⟨[[.plain 1 ["name"]]], false⟩),
      ("event_type", ⟨[[.plain 1 ["name"]], [.lookup 2 ["attributes"] ["key"] ["value"] "m"]], false⟩)] }
    ((extract p doc).map fun r => r.map fun (k, v) => (k, tostring v)) =
      [[("event_id", "s1"), ("job_name", "G"), ("event_type", "G_GET")],
       [("event_id", "s2"), ("job_name", "G"), ("event_type", "null")]] := by
  decide +kernel

/-- under the jq semantics `eval`, the query `jq_field_mapping_to_jq_query` emits for a well-formed program
yields, without error and in order, exactly the records of the extraction model, for every document -/
theorem compile_correct (p : Program) (doc : Json) (h : wfProgram p = true) :
    runQuery (emitProgram p) doc = .ok ((extract p doc).map Json.obj) := by
  simp only [wfProgram, Bool.and_eq_true, wfFieldsB_iff] at h
  rw [runQuery, emitProgram, eval_bind, eval_id, bindRes_single, List.nil_append,
    eval_emitLoops (eval_emitFields_top p.fields h.2) p.order [doc] (Nat.add_comm _ _) h.1, extract,
    bindings_eq_loopEnvs, List.map_map]
  rfl

/-- `compile_wf` discharges the hypothesis for every normalised mapping whose fields and parts are non-empty
(`wfMapping`) -/
theorem compile_correct_all (m : List (String × FieldSpecN)) (doc : Json) (h : wfMapping m) :
    runQuery (emitProgram (compile m)) doc = .ok ((extract (compile m) doc).map Json.obj) :=
  compile_correct (compile m) doc (compile_wf m h)

/-- non-vacuity: two levels (resource → spans), a header lookup, a `_` join with a fall-back, an array-valued
field -/
example :
    let p : Program := {
      order := [(0, ["resource_spans"]), (1, ["spans"])],
      fields := [
        ("job_name", { parts := [[.lookup 1 ["resource", "attributes"] ["key"] ["value"] "service.name"],
                                 [.plain 2 ["kind"], .plain 2 ["name"]]], isArray := false }),
        ("child_event_ids", { parts := [[.plain 2 ["children"]]], isArray := true })] }
    let doc : Json := .obj [("resource_spans", .arr [.obj [
      ("resource", .obj [("attributes", .arr [.obj [("key", .str "service.name"), ("value", .str "shop")]])]),
      ("spans", .arr [.obj [("name", .str "pay"), ("children", .arr [.str "c1", .str "c2"])],
                      .obj [("kind", .str "rpc"), ("name", .str "ship")]])]])]
    wfProgram p = true ∧ (runQuery (emitProgram p) doc).err = false ∧
    beqL (runQuery (emitProgram p) doc).outs [
      .obj [("job_name", .str "shop_pay"), ("child_event_ids", .arr [.str "c1", .str "c2"])],
      .obj [("job_name", .str "shop_rpc"), ("child_event_ids", .null)]] = true := by
  decide +kernel

end O2P.Jq
