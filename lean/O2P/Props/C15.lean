import O2P.Props.C11
import O2P.Props.C09
/-!
# C15 — re-running against a persisted store is repeatable
`runOnce` is one run of `otel_to_pv` (ingest or not, unique graphs or not) in a new process on the store an earlier run
left. The answer clause is in `C15Full.lean`.
-/
namespace O2P.Store

/-- a re-ingesting run computes the first run's window: the holder tracks the stream only, whatever is stored and
whatever the batch size -/
theorem ingest_window (b b' : Nat) (s s' : Store) (hs : Inv s) (hs' : Inv s') (es : List Node) (buffer : Int) :
    timeWindow buffer (ingest b (Holder.fresh s) es).1 = timeWindow buffer (ingest b' (Holder.fresh s') es).1 := by
  rw [ingest_fresh b s hs es, ingest_fresh b' s' hs' es]
  rfl

/-- ingesting into a store `t` that holds spans already appends exactly the first occurrences whose ids `t` lacks -/
theorem reingest_nodes (b : Nat) (t : Store) (ht : Inv t) (es : List Node) :
    (ingest b (Holder.fresh t) es).2 = .ok ∧
    (ingest b (Holder.fresh t) es).1.store.nodes =
      t.nodes ++ (firstOcc es).filter fun n => !t.ids.contains n.id := by
  rw [ingest_fresh b t ht es]
  exact ⟨rfl, rfl⟩

/-- the window a run computes: from the stream when it ingests, the widest possible one otherwise -/
def runWindow (buffer : Int) (ing : Bool) (es : List Node) : Option (Int × Int) :=
  timeWindow buffer (if ing then ⟨Store.empty, [], [], minStart maxInt64 es, maxStop 0 es⟩ else Holder.fresh Store.empty)

/-- one run without batches, holders or pending lists -/
def runSpec (buffer : Int) (ing uq : Bool) (es : List Node) (s : Store) : Store × RunStatus :=
  let s1 := removeInconsistent (if ing then ingestSpec s es else s)
  match runWindow buffer ing es with
  | none => (s1, .valueerror)
  | some w =>
    let s2 := renameByRoot (removeOutside w s1)
    if uq then
      match computeHashes w s2 with
      | none => (s2, .integrity)
      | some s3 => (s3, .ok)
    else (s2, .ok)

/-- one run in closed form: the result does not depend on the batch size, the window on the input only -/
theorem runOnce_eq_spec (batch : Nat) (buffer : Int) (ing uq : Bool) (es : List Node) (s : Store) (hs : Inv s) :
    runOnce batch buffer ing uq es s = runSpec buffer ing uq es s := by
  unfold runOnce
  cases ing with
  | false => rfl
  | true =>
    rw [if_pos rfl, ingest_fresh batch s hs es]
    rfl

/-- what `otel_to_pv` does after cleaning: in unique-graph mode `find_unique_graphs`, whose key can fail; else nothing -/
def finishRun (uq : Bool) (w : Int × Int) (s : Store) : Store × RunStatus :=
  if uq then
    match computeHashes w s with
    | none => (s, .integrity)
    | some s3 => (s3, .ok)
  else (s, .ok)

theorem runSpec_some {buffer : Int} {ing : Bool} {es : List Node} {w : Int × Int}
    (hw : runWindow buffer ing es = some w) (uq : Bool) (s : Store) :
    runSpec buffer ing uq es s = finishRun uq w (clean w (if ing then ingestSpec s es else s)) := by
  rw [runSpec, hw]
  rfl

theorem runSpec_none {buffer : Int} {ing : Bool} {es : List Node}
    (hw : runWindow buffer ing es = none) (uq : Bool) (s : Store) :
    runSpec buffer ing uq es s = (removeInconsistent (if ing then ingestSpec s es else s), .valueerror) := by
  rw [runSpec, hw]

/-- two stores with the same spans and links (whatever their hash rows) -/
def SameNA (a b : Store) : Prop := a.nodes = b.nodes ∧ a.assoc = b.assoc

theorem SameNA.trans {a b c : Store} (h1 : SameNA a b) (h2 : SameNA b c) : SameNA a c :=
  ⟨h1.1.trans h2.1, h1.2.trans h2.2⟩

theorem SameNA.eq_with {a b : Store} (h : SameNA a b) : a = { b with hashes := a.hashes } := by
  obtain ⟨n, l, k⟩ := a
  obtain ⟨rfl, rfl⟩ := h
  rfl

theorem SameNA.inv {a b : Store} (h : SameNA a b) (hb : Inv b) : Inv a := by
  rw [h.eq_with]
  exact ⟨hb.ids, hb.links, hb.noOrphan⟩

theorem SameNA.faithful {a b : Store} (h : SameNA a b) (hb : Faithful b) : Faithful a := by
  rw [h.eq_with]
  exact hb

theorem SameNA.map {f : Store → Store} (hf : ∀ s k, f { s with hashes := k } = { f s with hashes := k })
    {a b : Store} (h : SameNA a b) : SameNA (f a) (f b) := by
  rw [h.eq_with, hf]
  exact ⟨rfl, rfl⟩

theorem SameNA.computeHashes (w : Int × Int) {a b : Store} (h : SameNA a b) :
    computeHashes w a = computeHashes w b := by
  rw [h.eq_with]
  rfl

theorem sameNA_step (f : Store → Store)
    (hf : ∀ a b, SameNA a b → SameNA (f a) (f b)) (a b : Store) (h : SameNA a b) : SameNA (f a) (f b) := hf a b h

theorem finishRun_sameNA (uq : Bool) (w : Int × Int) (s : Store) : SameNA (finishRun uq w s).1 s := by
  unfold finishRun
  cases uq with
  | false => exact ⟨rfl, rfl⟩
  | true =>
    rw [if_pos rfl]
    cases hc : computeHashes w s with
    | none => exact ⟨rfl, rfl⟩
    | some s3 => exact (computeHashes_rows w s s3 hc).2

theorem finishRun_integrity {uq : Bool} {w : Int × Int} {s : Store} (h : (finishRun uq w s).2 = .integrity) :
    uq = true := by
  cases uq with
  | false => exact nomatch h
  | true => rfl

/-- the end of a run reads spans only; `hc`: the two windows select the same hash rows -/
theorem finishRun_congr (uq : Bool) {w w' : Int × Int} {a b : Store} (h : SameNA a b)
    (hc : computeHashes w a = computeHashes w' b) :
    (finishRun uq w a).2 = (finishRun uq w' b).2 ∧ SameNA (finishRun uq w a).1 (finishRun uq w' b).1 ∧
    (uq = true → (finishRun uq w a).2 = .ok → (finishRun uq w a).1 = (finishRun uq w' b).1) := by
  unfold finishRun
  cases uq with
  | false => exact ⟨rfl, h, nofun⟩
  | true =>
    simp only [if_true, hc]
    cases computeHashes w' b with
    | none => exact ⟨rfl, h, fun _ => nofun⟩
    | some s3 => exact ⟨rfl, ⟨rfl, rfl⟩, fun _ _ => rfl⟩

/-- Hash rows left by earlier runs never influence a run: stores that differ in hash rows only give the same status,
spans and links, and an ok run in unique-graph mode the same recomputed hash rows (the code after fix 770d495). -/
theorem runSpec_hashes_irrelevant (buffer : Int) (ing uq : Bool) (es : List Node) (a b : Store) (h : SameNA a b) :
    (runSpec buffer ing uq es a).2 = (runSpec buffer ing uq es b).2 ∧
    SameNA (runSpec buffer ing uq es a).1 (runSpec buffer ing uq es b).1 ∧
    (uq = true → (runSpec buffer ing uq es a).2 = .ok →
      (runSpec buffer ing uq es a).1 = (runSpec buffer ing uq es b).1) := by
  have h0 : SameNA (if ing then ingestSpec a es else a) (if ing then ingestSpec b es else b) := by
    cases ing
    · exact h
    · exact h.map (f := (ingestSpec · es)) fun _ _ => rfl
  cases hw : runWindow buffer ing es with
  | none =>
    rw [runSpec_none hw, runSpec_none hw]
    exact ⟨rfl, h0.map (f := removeInconsistent) fun _ _ => rfl, fun _ => nofun⟩
  | some w =>
    rw [runSpec_some hw, runSpec_some hw]
    have h1 := h0.map (f := clean w) fun _ _ => rfl
    exact finishRun_congr uq h1 (h1.computeHashes w)

/-- One run preserves the invariant and faithful links, and ends with an IntegrityError in unique-graph mode only (the
key of `job_hashes`, as on a fresh database): ingestion and cleaning never raise it. -/
theorem runOnce_inv (batch : Nat) (buffer : Int) (ing uq : Bool) (es : List Node) (s : Store)
    (hs : Inv s) (hf : Faithful s) :
    Inv (runOnce batch buffer ing uq es s).1 ∧ Faithful (runOnce batch buffer ing uq es s).1 ∧
    ((runOnce batch buffer ing uq es s).2 = .integrity → uq = true) := by
  rw [runOnce_eq_spec batch buffer ing uq es s hs]
  have h0 : Inv (if ing then ingestSpec s es else s) ∧ Faithful (if ing then ingestSpec s es else s) := by
    cases ing
    · exact ⟨hs, hf⟩
    · exact ⟨ingestSpec_inv hs es, ingestSpec_faithful_of hf es⟩
  cases hw : runWindow buffer ing es with
  | none =>
    rw [runSpec_none hw]
    have ⟨i, f⟩ := removeInconsistent_inv h0.1 h0.2
    exact ⟨i, f, nofun⟩
  | some w =>
    rw [runSpec_some hw]
    have hc := clean_inv w _ h0.1 h0.2
    have hn := finishRun_sameNA uq w (clean w (if ing then ingestSpec s es else s))
    exact ⟨hn.inv hc.1, hn.faithful hc.2, finishRun_integrity⟩

/-- a history of runs over one database: flags `(ingest, unique)` per run, every run a new process -/
def history (batch : Nat) (buffer : Int) (es : List Node) : List (Bool × Bool) → Store → List RunStatus
  | [], _ => []
  | (ing, uq) :: rest, s =>
    let r := runOnce batch buffer ing uq es s
    r.2 :: history batch buffer es rest r.1

def historyStore (batch : Nat) (buffer : Int) (es : List Node) : List (Bool × Bool) → Store → Store
  | [], s => s
  | (ing, uq) :: rest, s => historyStore batch buffer es rest (runOnce batch buffer ing uq es s).1

/-- After every history of runs, from any store with the invariant and faithful links (such as the empty database),
both hold again, and no run without unique-graph mode reports an IntegrityError. -/
theorem history_inv (batch : Nat) (buffer : Int) (es : List Node) :
    ∀ (fl : List (Bool × Bool)) (s : Store), Inv s → Faithful s →
      Inv (historyStore batch buffer es fl s) ∧ Faithful (historyStore batch buffer es fl s) ∧
      ∀ i (hi : i < fl.length), (history batch buffer es fl s)[i]? = some .integrity → fl[i].2 = true
  | [], s, hs, hf => ⟨hs, hf, fun i hi => absurd hi (Nat.not_lt_zero i)⟩
  | (ing, uq) :: rest, s, hs, hf => by
    obtain ⟨i1, f1, st⟩ := runOnce_inv batch buffer ing uq es s hs hf
    obtain ⟨i2, f2, rest_ok⟩ := history_inv batch buffer es rest _ i1 f1
    refine ⟨i2, f2, fun i hi hget => ?_⟩
    cases i with
    | zero => exact st (Option.some.inj hget)
    | succ k => exact rest_ok k (Nat.lt_of_succ_lt_succ hi) hget

/-- The answer clause for one later run in terms of `runOnce` alone; a `Prop`, proved nowhere under this name (the
theorems are `rerun_same_answer` in `C15Full.lean`, about `runSpec` and with the hash rows, and `history_same_answer`).
Under their hypotheses, the first, ingesting run on an empty database being ok, every later run on the store it left (up
to hash rows), whatever its flags and batch size, has the status, spans and links of a fresh run with the same unique
flag. -/
def rerun_same_answer_full : Prop :=
  ∀ (batch batch' : Nat) (buffer : Int) (es : List Node) (ing uq : Bool) (t : Store),
    ParentLocal (firstOcc es) →
    (runOnce batch buffer true false es Store.empty).2 = .ok →
    (runWindow buffer false es).isSome →
    (∀ n ∈ es, ∀ w, runWindow buffer false es = some w → inWindow w n = true) →
    SameNA t (runOnce batch buffer true false es Store.empty).1 →
    (runOnce batch' buffer ing uq es t).2 = (runOnce batch buffer true uq es Store.empty).2 ∧
    SameNA (runOnce batch' buffer ing uq es t).1 (runOnce batch buffer true uq es Store.empty).1

private def nd (j id typ : String) (st en : Int) (p : Option String) : Node := ⟨"wf", j, typ, id, st, en, "app", p⟩

/-- a complete trace and one with a dangling parent; runs (ingest), (ingest, unique), (no ingest, unique), (ingest): all
ok, and the last store holds the first run's spans -/
example :
    let es := [nd "t1" "r1" "R" 10 20 none, nd "t1" "a1" "A" 11 12 (some "r1"),
               nd "t2" "r2" "R" 30 40 none, nd "t2" "d2" "D" 31 32 (some "lost")]
    history 2 0 es [(true, false), (true, true), (false, true), (true, false)] Store.empty = [.ok, .ok, .ok, .ok] ∧
    (historyStore 2 0 es [(true, false), (true, true), (false, true), (true, false)] Store.empty).nodes =
      (runOnce 2 0 true false es Store.empty).1.nodes := by
  decide

end O2P.Store
