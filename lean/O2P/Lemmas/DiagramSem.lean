import O2P.Model.Diagram
/-!
`Built` names the ways `exec` and its three helpers assemble an output (`exec_built`, the one induction over
their fuel); a fact about all jobs is an induction over `Built`.
-/
namespace O2P.Diagram

theorem namesL_append (a b : List Blk) : namesL (a ++ b) = namesL a ++ namesL b := by
  induction a with
  | nil => simp [namesL]
  | cons x xs ih => simp [namesL, ih, List.append_assoc]

theorem names_subset_namesL {b : Blk} {l : List Blk} (h : b ∈ l) : names b ⊆ namesL l := by
  obtain ⟨l₁, l₂, rfl⟩ := List.append_of_mem h
  rw [namesL_append, namesL]
  exact fun _ hx => List.mem_append_right _ (List.mem_append_left _ hx)

theorem namesL_subset {a b : List Blk} (h : a ⊆ b) : namesL a ⊆ namesL b := by
  induction a with
  | nil => exact List.nil_subset _
  | cons x xs ih =>
    obtain ⟨hx, hxs⟩ := List.cons_subset.mp h
    exact List.append_subset.mpr ⟨names_subset_namesL hx, ih hxs⟩

theorem nonEmptySublists_subset {α : Type} : ∀ {l sel : List α}, sel ∈ nonEmptySublists l → sel ⊆ l
  | a :: as, sel, h => by
    simp only [nonEmptySublists, List.mem_cons, List.mem_append, List.mem_map] at h
    rcases h with (rfl | ⟨t, ht, rfl⟩) | h
    · simp
    · exact List.cons_subset_cons a (nonEmptySublists_subset ht)
    · exact List.subset_cons_of_subset a (nonEmptySublists_subset h)

/-- The outputs that can be assembled, the way `exec` does it, from events named in `ns`: entered from the
events `entry`, with `next` the first free id.  `skip` is the empty sequence, `stop` the empty fork and `detach`;
`leave` and `again` are one iteration of a loop body `o`, after which the loop is left or run on as `r`. -/
inductive Built (ns : List String) : List Nat → Nat → Out → Prop
  | ev {n entry next} : n ∈ ns → Built ns entry next ⟨[⟨next, n, entry⟩], [next], [], next + 1⟩
  | brk {entry next} : Built ns entry next ⟨[], [], entry, next⟩
  | skip {entry next} : Built ns entry next ⟨[], entry, [], next⟩
  | stop {entry next} : Built ns entry next ⟨[], [], [], next⟩
  | seq {entry next o r} : Built ns entry next o → Built ns o.exits o.next r →
      Built ns entry next ⟨o.nodes ++ r.nodes, r.exits, o.breaks ++ r.breaks, r.next⟩
  | par {entry next o r} : Built ns entry next o → Built ns entry o.next r →
      Built ns entry next ⟨o.nodes ++ r.nodes, o.exits ++ r.exits, o.breaks ++ r.breaks, r.next⟩
  | leave {entry next o} : Built ns entry next o → Built ns entry next ⟨o.nodes, o.exits ++ o.breaks, [], o.next⟩
  | again {entry next o r} : Built ns entry next o → Built ns o.exits o.next r →
      Built ns entry next ⟨o.nodes ++ r.nodes, r.exits ++ o.breaks, [], r.next⟩

theorem exec_built (k : Nat) {ns : List String} : ∀ fuel,
    (∀ b entry next, names b ⊆ ns → ∀ o ∈ exec k fuel b entry next, Built ns entry next o) ∧
    (∀ l entry next, namesL l ⊆ ns → ∀ o ∈ exec.execSeq k fuel l entry next, Built ns entry next o) ∧
    (∀ l entry next, namesL l ⊆ ns → ∀ o ∈ exec.execPar k fuel l entry next, Built ns entry next o) ∧
    (∀ i b entry next, names b ⊆ ns → ∀ o ∈ exec.execLoop k fuel i b entry next, Built ns entry next o)
  | 0 => by simp [exec, exec.execSeq, exec.execPar, exec.execLoop]
  | fuel + 1 => by
    obtain ⟨ihE, ihS, ihP, ihL⟩ := exec_built k (ns := ns) fuel
    refine ⟨?_, ?_, ?_, ?_⟩
    · intro b entry next hns o h
      rw [exec.eq_def] at h
      cases b with
      | ev n => rw [List.mem_singleton.mp h]; exact .ev (hns (by simp [names]))
      | brk => rw [List.mem_singleton.mp h]; exact .brk
      | detach => rw [List.mem_singleton.mp h]; exact .stop
      | seq l => exact ihS l entry next hns o h
      | loop body => exact ihL k body entry next hns o h
      | fork op bs =>
        obtain ⟨sel, hsel, ho⟩ := List.mem_flatMap.mp h
        have sub : sel ⊆ bs := by
          cases op with
          | and => rw [List.mem_singleton.mp hsel]; exact List.Subset.refl _
          | xor => obtain ⟨b, hb, rfl⟩ := List.mem_map.mp hsel; exact List.cons_subset.mpr ⟨hb, List.nil_subset _⟩
          | or => exact nonEmptySublists_subset hsel
        exact ihP sel entry next ((namesL_subset sub).trans hns) o ho
    · intro l entry next hns o h
      cases l with
      | nil => simp only [exec.execSeq, List.mem_singleton] at h; rw [h]; exact .skip
      | cons b bs =>
        obtain ⟨hb, hbs⟩ := List.append_subset.mp hns
        simp only [exec.execSeq, List.mem_flatMap] at h
        obtain ⟨o1, ho1, h⟩ := h
        have b1 := ihE b entry next hb o1 ho1
        split at h
        · rw [List.mem_singleton.mp h]; exact b1
        · obtain ⟨r, hr, rfl⟩ := List.mem_map.mp h
          exact b1.seq (ihS bs _ _ hbs r hr)
    · intro l entry next hns o h
      cases l with
      | nil => simp only [exec.execPar, List.mem_singleton] at h; rw [h]; exact .stop
      | cons b bs =>
        obtain ⟨hb, hbs⟩ := List.append_subset.mp hns
        simp only [exec.execPar, List.mem_flatMap, List.mem_map] at h
        obtain ⟨o1, ho1, r, hr, rfl⟩ := h
        exact (ihE b entry next hb o1 ho1).par (ihP bs _ _ hbs r hr)
    · intro i b entry next hns o h
      cases i with
      | zero => simp [exec.execLoop] at h
      | succ i =>
        simp only [exec.execLoop, List.mem_flatMap, List.mem_cons] at h
        obtain ⟨o1, ho1, h | h⟩ := h
        · rw [h]; exact (ihE b entry next hns o1 ho1).leave
        · split at h
          · simp at h
          · obtain ⟨r, hr, rfl⟩ := List.mem_map.mp h
            exact (ihE b entry next hns o1 ho1).again (ihL i b _ _ hns r hr)

theorem runs_built {k : Nat} {d : Blk} {j : Job} (hj : j ∈ runs k d) : ∃ o, Built (names d) [] 0 o ∧ o.nodes = j := by
  obtain ⟨o, ho, rfl⟩ := List.mem_map.mp hj
  exact ⟨o, (exec_built k _).1 d [] 0 (List.Subset.refl _) o ho, rfl⟩

theorem Built.types {ns entry next o} (h : Built ns entry next o) : ∀ n ∈ o.nodes, n.typ ∈ ns := by
  induction h with
  | ev hn => simpa using hn
  | brk | skip | stop => simp
  | leave _ ih => exact ih
  | seq _ _ ih1 ih2 | par _ _ ih1 ih2 | again _ _ ih1 ih2 => exact List.forall_mem_append.mpr ⟨ih1, ih2⟩

/-- jobs only carry the definition's names -/
theorem runs_types (k : Nat) (d : Blk) : ∀ j ∈ runs k d, ∀ n ∈ j, n.typ ∈ names d := by
  intro j hj
  obtain ⟨o, ho, rfl⟩ := runs_built hj
  exact ho.types

/-- an entry id or an id handed out from `lo` up to `hi`; `WF.prev`, `exits`, `breaks` are this, written out -/
abbrev Seen (entry : List Nat) (lo hi x : Nat) : Prop := x ∈ entry ∨ (lo ≤ x ∧ x < hi)

theorem Seen.widen {e' e : List Nat} {lo' lo hi' hi x : Nat} (h : Seen e' lo' hi' x)
    (he : ∀ y ∈ e', Seen e lo hi y) (hlo : lo ≤ lo') (hhi : hi' ≤ hi) : Seen e lo hi x :=
  h.elim (he x) fun h => .inr ⟨Nat.le_trans hlo h.1, Nat.lt_of_lt_of_le h.2 hhi⟩

/-- ids handed out by an execution are consecutive from `next`; every predecessor, exit and break id is
an entry id or an id handed out earlier -/
structure WF (entry : List Nat) (next : Nat) (o : Out) : Prop where
  le : next ≤ o.next
  ids : o.nodes.map (·.id) = List.range' next (o.next - next)
  prev : ∀ n ∈ o.nodes, ∀ p ∈ n.prev, p ∈ entry ∨ (next ≤ p ∧ p < n.id)
  exits : ∀ x ∈ o.exits, x ∈ entry ∨ (next ≤ x ∧ x < o.next)
  breaks : ∀ x ∈ o.breaks, x ∈ entry ∨ (next ≤ x ∧ x < o.next)

theorem WF.id_le {entry next o} (h : WF entry next o) {n : JNode} (hn : n ∈ o.nodes) : next ≤ n.id := by
  have : n.id ∈ o.nodes.map (·.id) := List.mem_map.mpr ⟨n, hn, rfl⟩
  rw [h.ids] at this
  exact (List.mem_range'_1.mp this).1

theorem range'_split {a b c : Nat} (h1 : a ≤ b) (h2 : b ≤ c) :
    List.range' a (b - a) ++ List.range' b (c - b) = List.range' a (c - a) := by
  rw [← Nat.sub_add_sub_cancel h2 h1, Nat.add_comm, ← List.range'_append_1, Nat.add_sub_cancel' h1]

/-- no event: exits and breaks are ids it was entered from -/
theorem WF.empty {entry ex br : List Nat} {next : Nat} (hex : ex ⊆ entry) (hbr : br ⊆ entry) :
    WF entry next ⟨[], ex, br, next⟩ :=
  ⟨Nat.le_refl _, by simp, nofun, fun _ hx => .inl (hex hx), fun _ hx => .inl (hbr hx)⟩

/-- `r` is run after `o`, entered from events `e2` that were seen by then; `ex` are the exits chosen for the whole -/
theorem WF.append {entry e2 : List Nat} {next : Nat} {o r : Out} (h1 : WF entry next o) (h2 : WF e2 o.next r)
    (he2 : ∀ y ∈ e2, Seen entry next o.next y) {ex : List Nat} (hex : ∀ x ∈ ex, x ∈ o.exits ∨ x ∈ r.exits) :
    WF entry next ⟨o.nodes ++ r.nodes, ex, o.breaks ++ r.breaks, r.next⟩ := by
  have first {x} (h : Seen entry next o.next x) : Seen entry next r.next x :=
    h.widen (fun _ => .inl) (Nat.le_refl _) h2.le
  have second {hi x} (hhi : o.next ≤ hi) (h : Seen e2 o.next hi x) : Seen entry next hi x :=
    h.widen (fun y hy => (he2 y hy).widen (fun _ => .inl) (Nat.le_refl _) hhi) h1.le (Nat.le_refl _)
  exact {
    le := Nat.le_trans h1.le h2.le
    ids := by simp only [List.map_append, h1.ids, h2.ids, range'_split h1.le h2.le]
    prev := fun n hn p hp => (List.mem_append.mp hn).elim (h1.prev n · p hp) fun hn =>
      second (h2.id_le hn) (h2.prev n hn p hp)
    exits := fun x hx => (hex x hx).elim (fun hx => first (h1.exits x hx)) fun hx => second h2.le (h2.exits x hx)
    breaks := fun x hx => (List.mem_append.mp hx).elim (fun hx => first (h1.breaks x hx)) fun hx =>
      second h2.le (h2.breaks x hx) }

/-- leaving a loop: what broke out of the body joins its exits -/
theorem WF.catch {entry : List Nat} {next : Nat} {o : Out} (h : WF entry next o) {ex : List Nat}
    (hex : ∀ x ∈ ex, x ∈ o.exits ∨ x ∈ o.breaks) : WF entry next ⟨o.nodes, ex, [], o.next⟩ :=
  ⟨h.le, h.ids, h.prev, fun x hx => (hex x hx).elim (h.exits x) (h.breaks x), nofun⟩

theorem Built.wf {ns entry next o} (h : Built ns entry next o) : WF entry next o := by
  induction h with
  | ev _ => exact ⟨Nat.le_succ _, by simp, by simp +contextual, by simp, nofun⟩
  | brk => exact .empty (List.nil_subset _) (List.Subset.refl _)
  | skip => exact .empty (List.Subset.refl _) (List.nil_subset _)
  | stop => exact .empty (List.nil_subset _) (List.nil_subset _)
  | seq _ _ ih1 ih2 => exact ih1.append ih2 ih1.exits fun _ => .inr
  | par _ _ ih1 ih2 => exact ih1.append ih2 (fun _ => .inl) fun _ => List.mem_append.mp
  | leave _ ih => exact ih.catch fun _ => List.mem_append.mp
  | again _ _ ih1 ih2 =>
    exact (ih1.append ih2 ih1.exits fun _ => .inr).catch fun x hx =>
      (List.mem_append.mp hx).imp_right (List.mem_append_left _)

/-- every job of a definition is a DAG listed in topological order: every predecessor id names an earlier
event of the same job -/
theorem runs_wellformed (k : Nat) (d : Blk) : ∀ j ∈ runs k d,
    j.map (·.id) = List.range j.length ∧ ∀ n ∈ j, ∀ p ∈ n.prev, p < n.id := by
  intro j hj
  obtain ⟨o, ho, rfl⟩ := runs_built hj
  have w := ho.wf
  have hid : o.nodes.map (·.id) = List.range' 0 o.next := w.ids
  have hlen : o.nodes.length = o.next := by simpa using congrArg List.length hid
  exact ⟨by rw [hid, hlen, List.range_eq_range'], fun n hn p hp => (w.prev n hn p hp).elim nofun (·.2)⟩

end O2P.Diagram
