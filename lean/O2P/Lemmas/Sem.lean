/-
The model's recursions over a list of children in list terms (`labelsL`, `canEmptyAny`, `canEmptyAll`, `mapM
leafLabel?`); then what a process tree of the miner produces (`PTree.sem`), seen through relations on lists (`sem_xor`,
`sem_and`, `sem_or`): an OR node produces what the parallel node over a non-empty selection of its children produces.
-/
import O2P.Lemmas.ListSet
namespace O2P.Gate

theorem labels_leaf (a : String) : (PTree.leaf a).labels = [a] := rfl

theorem labels_node (op : POp) (cs : List PTree) : (PTree.node op cs).labels = PTree.labelsL cs := rfl

theorem labelsL_nil : PTree.labelsL [] = [] := rfl

theorem labelsL_cons (c : PTree) (cs : List PTree) : PTree.labelsL (c :: cs) = c.labels ++ PTree.labelsL cs := rfl

theorem labelsL_eq : ∀ cs, PTree.labelsL cs = cs.flatMap PTree.labels
  | [] => rfl
  | c :: cs => by simp [labelsL_cons, labelsL_eq cs]

theorem mem_labelsL {cs : List PTree} {x : String} : x ∈ PTree.labelsL cs ↔ ∃ c ∈ cs, x ∈ c.labels := by
  rw [labelsL_eq, List.mem_flatMap]

theorem labelsL_append (a b : List PTree) : PTree.labelsL (a ++ b) = PTree.labelsL a ++ PTree.labelsL b := by
  simp [labelsL_eq]

theorem labelsL_sublist : ∀ {a b : List PTree}, a.Sublist b → (PTree.labelsL a).Sublist (PTree.labelsL b)
  | _, _, .slnil => .slnil
  | _, _, .cons c h => (labelsL_sublist h).trans (List.sublist_append_right _ _)
  | _, _, .cons_cons c h => List.Sublist.append (List.Sublist.refl _) (labelsL_sublist h)

theorem nodup_labels_of_sublist {a b : List PTree} (h : a.Sublist b) (hnd : (NE (PTree.labelsL b)).Nodup) :
    (NE (PTree.labelsL a)).Nodup :=
  (NE_sublist (labelsL_sublist h)).nodup hnd

theorem nodup_labels_child {cs : List PTree} (hnd : (NE (PTree.labelsL cs)).Nodup) {c : PTree} (hc : c ∈ cs) :
    (NE c.labels).Nodup := by
  simpa [labelsL_cons, labelsL_nil] using nodup_labels_of_sublist (List.singleton_sublist.mpr hc) hnd

theorem nodup_labels_cons {c : PTree} {cs : List PTree} :
    (NE (PTree.labelsL (c :: cs))).Nodup ↔
      (NE c.labels).Nodup ∧ (NE (PTree.labelsL cs)).Nodup ∧ ∀ a ∈ NE c.labels, ∀ b ∈ NE (PTree.labelsL cs), a ≠ b := by
  simp only [labelsL_cons, NE_append, List.nodup_append]

theorem labelsL_leaves (l : List String) : PTree.labelsL (l.map PTree.leaf) = l := by
  simp [labelsL_eq, List.flatMap_map, labels_leaf]

theorem mapM_leafLabel_iff : ∀ {cs : List PTree} {l : List String},
    cs.mapM leafLabel? = some l ↔ cs = l.map PTree.leaf
  | [], l => by simp [eq_comm]
  | c :: cs, l => by
    rw [eq_comm (a := c :: cs), List.map_eq_cons_iff]
    cases c with
    | leaf a =>
      simp only [List.mapM_cons, leafLabel?, Option.pure_def, Option.bind_eq_bind, Option.bind_some,
        Option.bind_eq_some_iff, Option.some.injEq, mapM_leafLabel_iff (cs := cs), PTree.leaf.injEq]
      show (∃ r, cs = r.map PTree.leaf ∧ a :: r = l) ↔ ∃ b r, l = b :: r ∧ b = a ∧ r.map PTree.leaf = cs
      exact ⟨fun ⟨r, h, e⟩ => ⟨a, r, e.symm, rfl, h.symm⟩, fun ⟨_, r, e, ha, h⟩ => ⟨r, h.symm, ha ▸ e.symm⟩⟩
    | _ => simp [List.mapM_cons, leafLabel?]

theorem canEmptyAny_eq : ∀ cs, canEmptyAny cs = cs.any canEmpty
  | [] => rfl
  | c :: cs => by simp [canEmptyAny, canEmptyAny_eq cs]

theorem canEmptyAll_eq : ∀ cs, canEmptyAll cs = cs.all canEmpty
  | [] => rfl
  | c :: cs => by simp [canEmptyAll, canEmptyAll_eq cs]

theorem flatten_singletons {α : Type} (l : List α) : (l.map fun a => [a]).flatten = l := by
  rw [← List.flatMap_def, List.flatMap_singleton']

mutual
theorem ptree_induct {P : PTree → Prop} (leaf : ∀ a, P (.leaf a)) (tau : P .tau)
    (node : ∀ op cs, (∀ c ∈ cs, P c) → P (.node op cs)) : ∀ t, P t
  | .leaf a => leaf a
  | .tau => tau
  | .node op cs => node op cs (ptree_inductL leaf tau node cs)
theorem ptree_inductL {P : PTree → Prop} (leaf : ∀ a, P (.leaf a)) (tau : P .tau)
    (node : ∀ op cs, (∀ c ∈ cs, P c) → P (.node op cs)) : ∀ cs : List PTree, ∀ c ∈ cs, P c
  | [] => fun _ h => nomatch h
  | d :: ds => List.forall_mem_cons.mpr ⟨ptree_induct leaf tau node d, ptree_inductL leaf tau node ds⟩
end

mutual
/-- the event sets a (raw or rewritten) process tree produces, up to order and repetition -/
def PTree.sem : PTree → List String → Prop
  | .leaf a, s => SameSet s [a]
  | .tau, s => s = []
  | .node .xor cs, s => PTree.semAny cs s
  | .node .and cs, s => ∃ ps, PTree.semAll cs ps ∧ SameSet s ps.flatten
  | .node .or cs, s => ∃ ps, PTree.semSome cs ps ∧ ps ≠ [] ∧ SameSet s ps.flatten
  | .node .other _, _ => False
/-- one child's set -/
def PTree.semAny : List PTree → List String → Prop
  | [], _ => False
  | c :: cs, s => c.sem s ∨ PTree.semAny cs s
/-- one set from every child -/
def PTree.semAll : List PTree → List (List String) → Prop
  | [], ps => ps = []
  | c :: cs, ps => ∃ p ps', ps = p :: ps' ∧ c.sem p ∧ PTree.semAll cs ps'
/-- one set from every child of a selection -/
def PTree.semSome : List PTree → List (List String) → Prop
  | [], ps => ps = []
  | c :: cs, ps => PTree.semSome cs ps ∨ ∃ p ps', ps = p :: ps' ∧ c.sem p ∧ PTree.semSome cs ps'
end

theorem semAny_iff {s : List String} : ∀ {cs : List PTree}, PTree.semAny cs s ↔ ∃ c ∈ cs, c.sem s
  | [] => by simp [PTree.semAny]
  | c :: cs => by simp [PTree.semAny, semAny_iff (cs := cs)]

theorem semAll_iff : ∀ {cs : List PTree} {ps : List (List String)}, PTree.semAll cs ps ↔ Rel2 PTree.sem cs ps
  | [], _ => by simp only [PTree.semAll, Rel2.nil_left_iff]
  | c :: cs, _ => by simp only [PTree.semAll, Rel2.cons_left_iff, semAll_iff (cs := cs)]

theorem semSome_iff : ∀ {cs : List PTree} {ps : List (List String)},
    PTree.semSome cs ps ↔ ∃ T, T.Sublist cs ∧ Rel2 PTree.sem T ps
  | [], ps => by
    simp only [PTree.semSome, List.sublist_nil]
    exact ⟨fun h => ⟨[], rfl, h ▸ .nil⟩, fun ⟨T, hT, h⟩ => Rel2.nil_left_iff.mp (hT ▸ h)⟩
  | c :: cs, ps => by
    simp only [PTree.semSome, semSome_iff (cs := cs)]
    constructor
    · rintro (⟨T, hT, h⟩ | ⟨p, ps', rfl, hc, T, hT, h⟩)
      · exact ⟨T, hT.cons _, h⟩
      · exact ⟨c :: T, hT.cons_cons _, .cons hc h⟩
    · rintro ⟨T, hT, h⟩
      cases hT with
      | cons _ hT => exact Or.inl ⟨T, hT, h⟩
      | cons_cons _ hT => cases h with
        | cons hc h => exact Or.inr ⟨_, _, rfl, hc, _, hT, h⟩

theorem sem_leaves (l : List String) : Rel2 PTree.sem (l.map PTree.leaf) (l.map fun a => [a]) :=
  Rel2.map_map fun a _ => SameSet.refl [a]

theorem sem_xor {cs : List PTree} {s : List String} : (PTree.node .xor cs).sem s ↔ ∃ c ∈ cs, c.sem s := by
  simp only [PTree.sem, semAny_iff]

theorem sem_and {cs : List PTree} {s : List String} :
    (PTree.node .and cs).sem s ↔ ∃ ps, Rel2 PTree.sem cs ps ∧ SameSet s ps.flatten := by
  simp only [PTree.sem, semAll_iff]

theorem sem_or {cs : List PTree} {s : List String} :
    (PTree.node .or cs).sem s ↔ ∃ T, T.Sublist cs ∧ T ≠ [] ∧ (PTree.node .and T).sem s := by
  simp only [PTree.sem, semSome_iff, semAll_iff]
  constructor
  · rintro ⟨ps, ⟨T, hT, h⟩, hne, hs⟩
    exact ⟨T, hT, mt h.nil_iff.mp hne, ps, h, hs⟩
  · rintro ⟨T, hT, hne, ps, h, hs⟩
    exact ⟨ps, ⟨T, hT, h⟩, mt h.nil_iff.mpr hne, hs⟩

theorem sem_sub {t : PTree} : ∀ {s}, t.sem s → ∀ x ∈ s, x ∈ t.labels := by
  induction t using ptree_induct with
  | leaf a => exact fun h x hx => (h x).mp hx
  | tau => exact fun h x hx => by cases h; cases hx
  | node op cs ih =>
    have hand : ∀ T : List PTree, T.Sublist cs → ∀ s, (PTree.node .and T).sem s → ∀ x ∈ s, x ∈ PTree.labelsL cs := by
      intro T hT s h x hx
      obtain ⟨ps, hr, hs⟩ := sem_and.mp h
      obtain ⟨p, hp, hxp⟩ := List.mem_flatten.mp ((hs x).mp hx)
      obtain ⟨c, hc, hcp⟩ := hr.mem_right p hp
      exact mem_labelsL.mpr ⟨c, hT.subset hc, ih c (hT.subset hc) hcp x hxp⟩
    intro s h x hx
    cases op with
    | xor =>
      obtain ⟨c, hc, h⟩ := sem_xor.mp h
      exact mem_labelsL.mpr ⟨c, hc, ih c hc h x hx⟩
    | and => exact hand cs (.refl _) s h x hx
    | or =>
      obtain ⟨T, hT, _, h⟩ := sem_or.mp h
      exact hand T hT s h x hx
    | other => cases h

theorem sem_and_perm {cs cs' : List PTree} (h : cs.Perm cs') (s : List String)
    (hs : (PTree.node .and cs).sem s) : (PTree.node .and cs').sem s := by
  obtain ⟨ps, hr, hs⟩ := sem_and.mp hs
  obtain ⟨ps', hp, hr'⟩ := hr.perm_left h
  exact sem_and.mpr ⟨ps', hr', fun x => (hs x).trans hp.flatten.mem_iff⟩

theorem sem_perm (op : POp) {cs cs' : List PTree} (h : cs.Perm cs') (s : List String)
    (hs : (PTree.node op cs).sem s) : (PTree.node op cs').sem s := by
  cases op with
  | xor =>
    obtain ⟨c, hc, hs⟩ := sem_xor.mp hs
    exact sem_xor.mpr ⟨c, h.mem_iff.mp hc, hs⟩
  | and => exact sem_and_perm h s hs
  | or =>
    obtain ⟨T, hT, hne, hs⟩ := sem_or.mp hs
    obtain ⟨T', hp, hT'⟩ := List.exists_perm_sublist hT h
    exact sem_or.mpr ⟨T', hT', fun e => hne (by simpa [e] using hp), sem_and_perm hp.symm s hs⟩
  | other => exact hs

theorem sem_and_nil {cs : List PTree} (h : (PTree.node .and cs).sem []) : ∀ c ∈ cs, c.sem [] := fun c hc => by
  obtain ⟨ps, hr, hs⟩ := sem_and.mp h
  obtain ⟨p, hp, hcp⟩ := hr.mem_left c hc
  exact List.flatten_eq_nil_iff.mp (sameSet_nil.mp hs.symm) p hp ▸ hcp

/-- `canEmpty` never misses a tree that produces the empty set -/
theorem sem_nil_canEmpty (t : PTree) : t.sem [] → canEmpty t = true := by
  induction t using ptree_induct with
  | leaf a => exact fun h => by cases (h a).mpr List.mem_cons_self
  | tau => exact fun _ => rfl
  | node op cs ih =>
    intro h
    cases op with
    | xor =>
      obtain ⟨c, hc, h⟩ := sem_xor.mp h
      simp only [canEmpty, canEmptyAny_eq, List.any_eq_true]
      exact ⟨c, hc, ih c hc h⟩
    | and =>
      simp only [canEmpty, canEmptyAll_eq, List.all_eq_true]
      exact fun c hc => ih c hc (sem_and_nil h c hc)
    | or =>
      obtain ⟨T, hT, hne, h⟩ := sem_or.mp h
      obtain ⟨c, hc⟩ := List.exists_mem_of_ne_nil T hne
      simp only [canEmpty, canEmptyAny_eq, List.any_eq_true]
      exact ⟨c, hT.subset hc, ih c (hT.subset hc) (sem_and_nil h c hc)⟩
    | other => cases h

/-! `sem_nil_canEmpty` for `semAny`, `semAll`, `semSome`, so that each function defined together with `sem` has the fact
in its own terms; no proof uses these. -/

theorem semAny_nil_canEmpty : ∀ (cs : List PTree), PTree.semAny cs [] → canEmptyAny cs = true :=
  fun cs h => sem_nil_canEmpty (.node .xor cs) h

theorem semAll_nil_canEmpty : ∀ (cs : List PTree) (ps : List (List String)), PTree.semAll cs ps →
    (∀ p ∈ ps, p = []) → canEmptyAll cs = true :=
  fun cs ps h hp => sem_nil_canEmpty (.node .and cs) ⟨ps, h, List.flatten_eq_nil_iff.mpr hp ▸ .refl []⟩

theorem semSome_nil_canEmpty : ∀ (cs : List PTree) (ps : List (List String)), PTree.semSome cs ps → ps ≠ [] →
    (∀ p ∈ ps, p = []) → canEmptyAny cs = true :=
  fun cs ps h hne hp => sem_nil_canEmpty (.node .or cs) ⟨ps, h, hne, List.flatten_eq_nil_iff.mpr hp ▸ .refl []⟩

end O2P.Gate
