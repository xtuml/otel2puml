/-
The decision logic of the OR inference (`infer_or_gate_from_node` / `check_is_or_operator`) over abstract children: their
labels and the non-empty sets they produce.
-/
import O2P.Lemmas.ListSet
namespace O2P.Gate

/-- a child of the parallel node: the event names below it and the (non-empty) sets of them it can produce -/
structure Child where
  labels : List String
  out : List String → Prop
  out_sub : ∀ s, out s → ∀ x ∈ s, x ∈ labels
  out_ne : ∀ s, out s → s ≠ []

/-- one produced set per child -/
inductive Picks : List Child → List (List String) → Prop where
  | nil : Picks [] []
  | cons {u us s ss} : u.out s → Picks us ss → Picks (u :: us) (s :: ss)

def labelsOfC (cs : List Child) : List String := cs.flatMap (·.labels)

/-- the miner's node `+(N…, X(tau, r)…)` -/
def Raw (N R : List Child) (s : List String) : Prop :=
  ∃ ps T qs, Picks N ps ∧ T.Sublist R ∧ Picks T qs ∧ SameSet s (ps.flatten ++ qs.flatten)

/-- `O(r…, +(N…))` (or `O(r…, n)` for a single mandatory child, `O(r…)` for none): a non-empty selection among
the optional children and the mandatory block.  The two middle conjuncts: the block is in the selection (`Picks N ps`)
or is not (`ps = []`); and the selection is not empty: an optional child is in it (`T ≠ []`), or the block is and has a
member. -/
def NewOr (N R : List Child) (s : List String) : Prop :=
  ∃ T qs ps, T.Sublist R ∧ Picks T qs ∧ (Picks N ps ∨ ps = []) ∧ (T ≠ [] ∨ (Picks N ps ∧ N ≠ [])) ∧
    SameSet s (qs.flatten ++ ps.flatten)

/-- `+(N…, O(r…))` -/
def NewAnd (N R : List Child) (s : List String) : Prop :=
  ∃ ps T qs, Picks N ps ∧ T.Sublist R ∧ T ≠ [] ∧ Picks T qs ∧ SameSet s (ps.flatten ++ qs.flatten)

/-- `check_is_or_operator` -/
def IsOr (F : List (List String)) (N R : List Child) : Prop :=
  N = [] ∨ ∃ s ∈ F, (∃ x ∈ s, x ∈ labelsOfC N) ∧ (∀ x ∈ s, x ∉ labelsOfC R)

theorem picks_iff_rel2 {cs : List Child} {ss : List (List String)} : Picks cs ss ↔ Rel2 (fun u s => u.out s) cs ss := by
  constructor <;> intro h <;> induction h with
  | nil => exact .nil
  | cons h _ ih => exact .cons h ih

theorem Picks.flatten_sub {cs : List Child} {ss : List (List String)} (h : Picks cs ss) :
    ∀ x ∈ ss.flatten, x ∈ labelsOfC cs := fun x hx => by
  obtain ⟨s, hs, hxs⟩ := List.mem_flatten.mp hx
  obtain ⟨u, hu, hus⟩ := (picks_iff_rel2.mp h).mem_right s hs
  exact List.mem_flatMap.mpr ⟨u, hu, u.out_sub s hus x hxs⟩

theorem Picks.nonempty {cs : List Child} {ss : List (List String)} (h : Picks cs ss) (hne : cs ≠ []) :
    ∃ x, x ∈ ss.flatten := by
  obtain ⟨u, hu⟩ := List.exists_mem_of_ne_nil cs hne
  obtain ⟨s, hs, hus⟩ := (picks_iff_rel2.mp h).mem_left u hu
  obtain ⟨x, hx⟩ := List.exists_mem_of_ne_nil s (u.out_ne s hus)
  exact ⟨x, List.mem_flatten.mpr ⟨s, hs, hx⟩⟩

theorem Picks.nil_of_nil : ∀ {cs : List Child}, Picks cs [] → cs = []
  | _, .nil => rfl

/-- `s` need only agree with some observed `s0` on the names of the node: below the top of a tree a node has to produce
such projections; at the top `s0 = s`. -/
theorem infer_or_sound_proj (F : List (List String)) (N R : List Child)
    (hdisj : ∀ x, x ∈ labelsOfC N → x ∉ labelsOfC R) (s : List String)
    (hproj : ∃ s0 ∈ F, ∀ x, (x ∈ labelsOfC N ∨ x ∈ labelsOfC R) → (x ∈ s0 ↔ x ∈ s)) (hraw : Raw N R s) :
    (IsOr F N R → NewOr N R s ∨ s = []) ∧ (¬ IsOr F N R → NewAnd N R s) := by
  obtain ⟨ps, T, qs, hN, hT, hq, hsame⟩ := hraw
  constructor
  · intro _
    by_cases he : T = [] ∧ N = []
    · obtain ⟨rfl, rfl⟩ := he
      cases hN; cases hq
      exact Or.inr (sameSet_nil.mp hsame)
    · refine Or.inl ⟨T, qs, ps, hT, hq, Or.inl hN, ?_, fun x => (hsame x).trans ?_⟩
      · by_cases hTe : T = []
        · exact Or.inr ⟨hN, fun hNe => he ⟨hTe, hNe⟩⟩
        · exact Or.inl hTe
      · simp only [List.mem_append, or_comm]
  · intro hno
    refine ⟨ps, T, qs, hN, hT, ?_, hq, hsame⟩
    rintro rfl
    cases hq
    -- `s` holds a mandatory event and no optional one, and so does `s0`: the test would have said OR
    obtain ⟨s0, hs0, hag⟩ := hproj
    obtain ⟨x, hx⟩ := hN.nonempty fun e => hno (Or.inl e)
    have hxN := hN.flatten_sub x hx
    have hxs : x ∈ s := (hsame x).mpr (List.mem_append_left _ hx)
    refine hno (Or.inr ⟨s0, hs0, ⟨x, (hag x (Or.inl hxN)).mpr hxs, hxN⟩, fun y hy hyR => ?_⟩)
    have hyN := (hsame y).mp ((hag y (Or.inr hyR)).mp hy)
    rw [List.flatten_nil, List.append_nil] at hyN
    exact hdisj y (hN.flatten_sub y hyN) hyR

end O2P.Gate
