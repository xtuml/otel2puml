/-
The model's sets are lists: membership in its set operations; `norm` is canonical (same normal form exactly when same
members, `SameSet`, which is also what the cover step's test `sameS` decides); and with that what the judge `admits`.
-/
import O2P.Model.Gate
import O2P.Lemmas.Rel2
namespace O2P.Gate

theorem mem_diffS {a b : List String} {x : String} : x ∈ diffS a b ↔ x ∈ a ∧ x ∉ b := by
  simp [diffS, List.mem_filter]

theorem mem_interS {a b : List String} {x : String} : x ∈ interS a b ↔ x ∈ a ∧ x ∈ b := by
  simp [interS, List.mem_filter]

theorem subsetS_iff {a b : List String} : subsetS a b = true ↔ ∀ x ∈ a, x ∈ b := by
  simp [subsetS, List.all_eq_true]

theorem interS_eq_nil_iff {a b : List String} : interS a b = [] ↔ ∀ x ∈ a, x ∉ b := by
  simp only [interS, List.filter_eq_nil_iff, List.contains_eq_mem, decide_eq_true_eq]

theorem disjointS_iff {a b : List String} : disjointS a b = true ↔ ∀ x ∈ a, x ∉ b := by
  rw [disjointS, List.isEmpty_iff, interS_eq_nil_iff]

theorem interS_of_subset {s R : List String} (h : ∀ x ∈ s, x ∈ R) : interS s R = s := by
  unfold interS
  exact List.filter_eq_self.mpr fun x hx => by simpa using h x hx

theorem mem_NE {l : List String} {x : String} : x ∈ NE l ↔ x ∈ l ∧ x ≠ "" := by
  simp [NE]

theorem NE_append (a b : List String) : NE (a ++ b) = NE a ++ NE b := by simp [NE]

theorem NE_sublist {a b : List String} (h : a.Sublist b) : (NE a).Sublist (NE b) := List.Sublist.filter _ h

/-! ### `norm` is canonical: strictly sorted, same members -/

theorem mem_insertS (x y : String) : ∀ (l : List String), y ∈ insertS x l ↔ y = x ∨ y ∈ l
  | [] => by simp [insertS]
  | z :: zs => by
    simp only [insertS]
    split
    · simp
    · split
      · next h => simp [show x = z by simpa using h]
      · simp [mem_insertS x y zs, or_left_comm]

theorem mem_norm (y : String) : ∀ (s : List String), y ∈ norm s ↔ y ∈ s
  | [] => by simp [norm]
  | x :: xs => by
    have ih := mem_norm y xs
    simp only [norm, List.foldr_cons] at ih ⊢
    rw [mem_insertS, ih, List.mem_cons]

theorem sorted_insertS (x : String) : ∀ (l : List String), l.Pairwise (· < ·) → (insertS x l).Pairwise (· < ·)
  | [], _ => by simp [insertS]
  | z :: zs, h => by
    have hz := List.pairwise_cons.mp h
    simp only [insertS]
    split
    · next h1 => exact List.pairwise_cons.mpr ⟨fun a ha => (List.mem_cons.mp ha).elim (· ▸ h1) fun ha =>
        String.lt_trans h1 (hz.1 a ha), h⟩
    · split
      · exact h
      · next h1 h2 =>
        refine List.pairwise_cons.mpr ⟨fun a ha => ?_, sorted_insertS x zs hz.2⟩
        rcases (mem_insertS x a zs).mp ha with rfl | ha
        · -- `z ≤ a` and `a ≠ z`
          exact Decidable.by_contra fun hn =>
            h2 (by simpa using String.le_antisymm (String.not_lt.mp hn) (String.not_lt.mp h1))
        · exact hz.1 a ha

theorem sorted_norm : ∀ (s : List String), (norm s).Pairwise (· < ·)
  | [] => .nil
  | x :: xs => sorted_insertS x _ (sorted_norm xs)

theorem norm_of_sorted : ∀ {l : List String}, l.Pairwise (· < ·) → norm l = l
  | [], _ => rfl
  | [_], _ => rfl
  | x :: y :: ys, h => by
    have hx := List.pairwise_cons.mp h
    rw [norm, List.foldr_cons, ← norm, norm_of_sorted hx.2, insertS, if_pos (hx.1 y List.mem_cons_self)]

def SameSet (a b : List String) : Prop := ∀ x, x ∈ a ↔ x ∈ b

theorem SameSet.refl (a : List String) : SameSet a a := fun _ => Iff.rfl

theorem SameSet.symm {a b : List String} (h : SameSet a b) : SameSet b a := fun x => (h x).symm

theorem SameSet.trans {a b c : List String} (h : SameSet a b) (k : SameSet b c) : SameSet a c :=
  fun x => (h x).trans (k x)

theorem sameSet_nil {s : List String} : SameSet s [] ↔ s = [] :=
  ⟨fun h => List.eq_nil_iff_forall_not_mem.mpr fun x hx => (nomatch (h x).mp hx), fun h => h ▸ .refl []⟩

theorem norm_eq_iff {a b : List String} : norm a = norm b ↔ SameSet a b := by
  refine ⟨fun h x => by rw [← mem_norm x a, h, mem_norm], fun h => ?_⟩
  have nd : ∀ s, (norm s).Nodup := fun s =>
    List.Pairwise.imp (S := (· ≠ ·)) (fun h e => String.lt_irrefl _ (e ▸ h)) (sorted_norm s)
  exact List.Perm.eq_of_pairwise (fun _ _ _ _ h1 h2 => absurd (String.lt_trans h1 h2) (String.lt_irrefl _))
    (sorted_norm a) (sorted_norm b)
    ((List.perm_ext_iff_of_nodup (nd a) (nd b)).mpr fun x => by rw [mem_norm, mem_norm, h x])

/-! ### families of sets, and what the judge admits -/

theorem mem_union (a b : List String) (x : String) : x ∈ union a b ↔ x ∈ a ∨ x ∈ b := by
  simp [union, mem_norm]

theorem mem_insertF (x y : List String) (f : List (List String)) : y ∈ insertF x f ↔ y = x ∨ y ∈ f := by
  unfold insertF
  split
  · next h => exact ⟨Or.inr, fun h' => h'.elim (· ▸ List.contains_iff_mem.mp h) id⟩
  · simp [or_comm]

theorem mem_dedupF (y : List String) (f : List (List String)) : y ∈ dedupF f ↔ y ∈ f := by
  suffices h : ∀ (acc : List (List String)), y ∈ f.foldl (fun acc x => insertF x acc) acc ↔ y ∈ acc ∨ y ∈ f by
    simpa [dedupF] using h []
  induction f with
  | nil => simp
  | cons x xs ih => intro acc; simp only [List.foldl_cons, ih, mem_insertF, List.mem_cons, or_assoc, or_left_comm]

theorem sameS_iff {a b : List String} : sameS a b = true ↔ SameSet a b := by
  rw [sameS, Bool.and_eq_true, subsetS_iff, subsetS_iff]
  exact ⟨fun h x => ⟨h.1 x, h.2 x⟩, fun h => ⟨fun x => (h x).mp, fun x => (h x).mpr⟩⟩

theorem flatten_sameSet {ps os : List (List String)} (h : Rel2 SameSet ps os) : SameSet ps.flatten os.flatten := by
  induction h with
  | nil => exact SameSet.refl _
  | cons h _ ih => exact fun x => by simp only [List.flatten_cons, List.mem_append, h x, ih x]

theorem mem_nonEmptySublists_iff {α : Type} : ∀ {l sub : List α},
    sub ∈ nonEmptySublists l ↔ sub.Sublist l ∧ sub ≠ []
  | [], sub => by simp [nonEmptySublists]
  | x :: xs, sub => by
    simp only [nonEmptySublists, List.mem_cons, List.mem_append, List.mem_map, mem_nonEmptySublists_iff (l := xs)]
    constructor
    · rintro ((rfl | ⟨t, ⟨ht, _⟩, rfl⟩) | ⟨h, hne⟩)
      · exact ⟨(List.nil_sublist xs).cons_cons x, by simp⟩
      · exact ⟨ht.cons_cons x, by simp⟩
      · exact ⟨h.cons x, hne⟩
    · rintro ⟨h, hne⟩
      cases h with
      | cons _ h => exact Or.inr ⟨h, hne⟩
      | cons_cons _ h =>
        rename_i sub'
        by_cases he : sub' = []
        · exact Or.inl (Or.inl (he ▸ rfl))
        · exact Or.inl (Or.inr ⟨sub', ⟨h, he⟩, rfl⟩)

/-- one outcome picked from every family, united, is an outcome of the product -/
theorem pick_productAll : ∀ {fs : List (List (List String))} {os : List (List String)},
    Rel2 (fun f o => o ∈ f) fs os → ∃ o ∈ productAll fs, SameSet o os.flatten
  | _, _, .nil => ⟨[], by simp [productAll], .refl _⟩
  | f :: fs, a :: os, .cons ha hs => by
    obtain ⟨o', ho', hm⟩ := pick_productAll hs
    refine ⟨union a o', ?_, fun x => ?_⟩
    · simp only [productAll, List.mem_flatMap, List.mem_map]
      exact ⟨a, ha, o', ho', rfl⟩
    · simp only [mem_union, List.flatten_cons, List.mem_append, hm x]

/-- … and every outcome of the product is one -/
theorem mem_productAll : ∀ {fs : List (List (List String))} {o : List String}, o ∈ productAll fs →
    ∃ os, Rel2 (fun f o => o ∈ f) fs os ∧ SameSet o os.flatten
  | [], o, h => by
    cases List.mem_singleton.mp h
    exact ⟨[], .nil, .refl _⟩
  | f :: fs, o, h => by
    simp only [productAll, List.mem_flatMap, List.mem_map] at h
    obtain ⟨a, ha, b, hb, rfl⟩ := h
    obtain ⟨os, hrel, hm⟩ := mem_productAll hb
    exact ⟨a :: os, .cons ha hrel, fun x => by simp only [mem_union, List.flatten_cons, List.mem_append, hm x]⟩

theorem admits_iff (g : Gate) (s : List String) : admits g s = true ↔ ∃ o ∈ outcomes g, SameSet s o := by
  simp only [admits, family, List.contains_iff_mem, mem_dedupF, List.mem_map, norm_eq_iff]
  exact ⟨fun ⟨o, ho, h⟩ => ⟨o, ho, h.symm⟩, fun ⟨o, ho, h⟩ => ⟨o, ho, h.symm⟩⟩

end O2P.Gate
