/-
The OR inference on one node of the executable model: subtrees are read as children of the decision logic
(`PTree.child`), the raw node's sets handed to `infer_or_sound_proj`, its conclusions read back as the trees
`inferOrNode` builds.
-/
import O2P.Lemmas.InferOr
import O2P.Lemmas.Sem
namespace O2P.Gate

/-- a subtree as a child of the decision logic -/
def PTree.child (c : PTree) : Child where
  labels := c.labels
  out := fun s => c.sem s ∧ s ≠ []
  out_sub := fun _ h => sem_sub h.1
  out_ne := fun _ h => h.2

theorem labelsOfC_child (cs : List PTree) : labelsOfC (cs.map PTree.child) = PTree.labelsL cs := by
  rw [labelsOfC, labelsL_eq, List.flatMap_map]
  rfl

theorem picks_child {l : List PTree} {ps : List (List String)} :
    Picks (l.map PTree.child) ps ↔ Rel2 (fun c p => c.sem p ∧ p ≠ []) l ps :=
  picks_iff_rel2.trans Rel2.map_left_iff

theorem picks_sem {l : List PTree} {ps : List (List String)} (h : Picks (l.map PTree.child) ps) : Rel2 PTree.sem l ps :=
  (picks_child.mp h).imp And.left

/-- an event, a silent leaf or a choice: the children the code before fix c6e9ec1 sorted into one of its two lists (one
with another operator landed in neither).  `classify` mirrors the code after that fix; no theorem assumes this. -/
def Classified : PTree → Prop
  | .leaf _ => True
  | .tau => True
  | .node .xor _ => True
  | .node _ _ => False

/-- an optional branch: a choice with a silent alternative -/
def isOpt : PTree → Bool
  | .node .xor gcs => gcs.any PTree.isTau
  | _ => false

theorem classify_eq : ∀ cs, classify cs = (cs.filter isOpt, cs.filter fun c => !isOpt c)
  | [] => rfl
  | c :: cs => by
    rw [classify, classify_eq cs]
    match c with
    | .leaf _ | .tau | .node .and _ | .node .or _ | .node .other _ => rfl
    | .node .xor gcs => cases h : gcs.any PTree.isTau <;> simp [isOpt, h]

theorem classify_opt (cs : List PTree) : ∀ c ∈ (classify cs).1, isOpt c = true := fun c hc => by
  rw [classify_eq] at hc
  exact (List.mem_filter.mp hc).2

theorem classify_perm (cs : List PTree) : ((classify cs).1 ++ (classify cs).2).Perm cs := by
  rw [classify_eq]
  exact List.filter_append_perm isOpt cs

theorem classify_sublist (cs : List PTree) : (classify cs).1.Sublist cs ∧ (classify cs).2.Sublist cs := by
  rw [classify_eq]
  exact ⟨List.filter_sublist, List.filter_sublist⟩

theorem classify_nonTau (cs : List PTree) : classify (classify cs).2 = ([], (classify cs).2) := by
  simp [classify_eq, List.filter_filter]

theorem classify_append {ms os : List PTree} (hm : ∀ c ∈ ms, isOpt c = false) (ho : ∀ c ∈ os, isOpt c = true) :
    classify (ms ++ os) = (os, ms) := by
  rw [classify_eq, List.filter_append, List.filter_append,
    List.filter_eq_nil_iff.mpr fun c hc => Bool.eq_false_iff.mp (hm c hc), List.filter_eq_self.mpr ho,
    List.filter_eq_self.mpr fun c hc => congrArg not (hm c hc),
    List.filter_eq_nil_iff.mpr fun c hc => Bool.eq_false_iff.mp (congrArg not (ho c hc)),
    List.nil_append, List.append_nil]

theorem isOpt_iff {c : PTree} : isOpt c = true ↔ ∃ gcs, c = .node .xor gcs ∧ gcs.any PTree.isTau = true := by
  constructor
  · intro h
    match c, h with
    | .node .xor gcs, h => exact ⟨gcs, rfl, h⟩
  · rintro ⟨gcs, rfl, h⟩
    exact h

theorem inferOrNode_and (F : List (List String)) (cs : List PTree) :
    inferOrNode F (.node .and cs) =
      if (classify cs).1.isEmpty then .node .and cs else
      if checkIsOr F (classify cs).2 ((classify cs).1.flatMap grandchildrenOf) then
        if (classify cs).2.length > 1 then
          .node .or ((classify cs).1.flatMap grandchildrenOf ++ [.node .and (classify cs).2])
        else .node .or ((classify cs).1.flatMap grandchildrenOf ++ (classify cs).2)
      else .node .and ((classify cs).2 ++ [.node .or ((classify cs).1.flatMap grandchildrenOf)]) := by
  cases h : classify cs
  simp only [inferOrNode, h]

theorem opt_pick {c : PTree} {p : List String} (hc : isOpt c = true) (h : c.sem p) (hp : p ≠ []) :
    ∃ g, [g].Sublist (grandchildrenOf c) ∧ g.sem p := by
  obtain ⟨gcs, rfl, _⟩ := isOpt_iff.mp hc
  obtain ⟨g, hg, h⟩ := sem_xor.mp h
  refine ⟨g, List.singleton_sublist.mpr (List.mem_filter.mpr ⟨hg, ?_⟩), h⟩
  cases g with
  | tau => exact absurd h hp
  | _ => rfl

/-- one set from every optional branch: one non-empty set from every member of a selection among their alternatives -/
theorem tau_picks {tc : List PTree} {pt : List (List String)} (h : Rel2 PTree.sem tc pt) :
    (∀ c ∈ tc, isOpt c = true) →
    ∃ T qs, T.Sublist (tc.flatMap grandchildrenOf) ∧ Rel2 (fun c p => c.sem p ∧ p ≠ []) T qs ∧
      SameSet pt.flatten qs.flatten := by
  induction h with
  | nil => exact fun _ => ⟨[], [], .slnil, .nil, SameSet.refl _⟩
  | @cons c p tc pt h _ ih =>
    intro hsh
    obtain ⟨T, qs, hT, hP, hx⟩ := ih fun d hd => hsh d (List.mem_cons_of_mem _ hd)
    by_cases hp : p = []
    · subst hp
      exact ⟨T, qs, List.sublist_append_of_sublist_right hT, hP, hx⟩
    · obtain ⟨g, hg, hgp⟩ := opt_pick (hsh c List.mem_cons_self) h hp
      exact ⟨g :: T, p :: qs, hg.append hT, .cons ⟨hgp, hp⟩ hP, fun x => by
        simp only [List.flatten_cons, List.mem_append, hx x]⟩

theorem raw_of_sem {cs : List PTree} {s : List String} (hne : ∀ c ∈ (classify cs).2, ∀ s, c.sem s → s ≠ [])
    (h : (PTree.node .and cs).sem s) :
    Raw ((classify cs).2.map PTree.child) (((classify cs).1.flatMap grandchildrenOf).map PTree.child) s := by
  -- the optional branches first, then the mandatory children
  obtain ⟨ps, hr, hs⟩ := sem_and.mp (sem_and_perm (classify_perm cs).symm s h)
  obtain ⟨pt, pn, rfl, ht, hn⟩ := hr.of_append_left
  obtain ⟨T, qs, hT, hq, hxt⟩ := tau_picks ht (classify_opt cs)
  exact ⟨pn, T.map PTree.child, qs, picks_child.mpr (hn.imp_mem fun c hc p h => ⟨h, hne c hc p h⟩), hT.map _,
    picks_child.mpr hq, fun x => by rw [hs x, List.flatten_append, List.mem_append, List.mem_append, hxt x, or_comm]⟩

/-- `+(n…, O(r…))` -/
theorem newAnd_sem {N R : List PTree} {s : List String} (h : NewAnd (N.map PTree.child) (R.map PTree.child) s) :
    (PTree.node .and (N ++ [.node .or R])).sem s := by
  obtain ⟨ps, T, qs, hN, hT, hTne, hq, hs⟩ := h
  obtain ⟨T0, hT0, rfl⟩ := List.sublist_map_iff.mp hT
  have hor : (PTree.node .or R).sem qs.flatten :=
    sem_or.mpr ⟨T0, hT0, by simpa using hTne, sem_and.mpr ⟨qs, picks_sem hq, SameSet.refl _⟩⟩
  exact sem_and.mpr ⟨ps ++ [qs.flatten], (picks_sem hN).append (.cons hor .nil), by simpa using hs⟩

/-- `O(r…, b…)`, where the trees `b…` stand for the mandatory block: `+(n…)` itself, or its members -/
theorem newOr_sem {N R B : List PTree} {s : List String}
    (hB : ∀ ps, Picks (N.map PTree.child) ps → ∃ pb, Rel2 PTree.sem B pb ∧ SameSet ps.flatten pb.flatten)
    (hBne : N ≠ [] → B ≠ []) (h : NewOr (N.map PTree.child) (R.map PTree.child) s) :
    (PTree.node .or (R ++ B)).sem s := by
  obtain ⟨T, qs, ps, hT, hq, hN, hsel, hs⟩ := h
  obtain ⟨T0, hT0, rfl⟩ := List.sublist_map_iff.mp hT
  simp only [ne_eq, List.map_eq_nil_iff] at hsel
  -- `NewOr`'s two middle conjuncts by cases: the mandatory block is in the selection, or only optional children are
  have hcase : Picks (N.map PTree.child) ps ∨ (ps = [] ∧ T0 ≠ []) := by
    rcases hN with hP | rfl
    · exact Or.inl hP
    · exact hsel.elim (fun h => Or.inr ⟨rfl, h⟩) fun h => Or.inl h.1
  rcases hcase with hP | ⟨rfl, hTne⟩
  · obtain ⟨pb, hb, hpb⟩ := hB ps hP
    refine sem_or.mpr ⟨T0 ++ B, hT0.append (.refl _), ?_, sem_and.mpr ⟨qs ++ pb, (picks_sem hq).append hb, fun x => ?_⟩⟩
    · exact hsel.elim (List.append_ne_nil_of_left_ne_nil · _) fun h => List.append_ne_nil_of_right_ne_nil _ (hBne h.2)
    · simp only [hs x, List.flatten_append, List.mem_append, hpb x]
  · exact sem_or.mpr ⟨T0, hT0.trans (List.sublist_append_left ..), hTne,
      sem_and.mpr ⟨qs, picks_sem hq, by simpa using hs⟩⟩

theorem checkIsOr_iff (F : List (List String)) (nonTau removed : List PTree) :
    checkIsOr F nonTau removed = true ↔
      (nonTau = [] ∨ ∃ s ∈ F, (∃ x ∈ PTree.labelsL nonTau, x ∈ s) ∧ (∀ x ∈ PTree.labelsL removed, x ∉ s)) := by
  simp only [checkIsOr, Bool.or_eq_true, List.isEmpty_iff, List.any_eq_true, Bool.and_eq_true, Bool.not_eq_true',
    List.isEmpty_eq_false_iff, ne_eq, interS_eq_nil_iff, Classical.not_forall, Classical.not_not, exists_prop]

theorem isOr_child (F : List (List String)) (nonTau removed : List PTree) :
    IsOr F (nonTau.map PTree.child) (removed.map PTree.child) ↔ checkIsOr F nonTau removed = true := by
  simp only [IsOr, checkIsOr_iff, labelsOfC_child, List.map_eq_nil_iff]
  -- the same two conditions, with the membership tests in the other order
  refine or_congr_right (exists_congr fun s => and_congr_right fun _ => and_congr ?_ ?_)
  · exact ⟨fun ⟨x, h1, h2⟩ => ⟨x, h2, h1⟩, fun ⟨x, h1, h2⟩ => ⟨x, h2, h1⟩⟩
  · exact ⟨fun h x hx hs => h x hs hx, fun h x hs hx => h x hx hs⟩

/-- The per-node theorem, with the projection hypothesis of `infer_or_sound_proj`; `inferOrNode` builds `O(r…, +(n…))`,
`O(r…, n)` or `+(n…, O(r…))`. -/
theorem infer_or_tree_sound_proj (F : List (List String)) (cs : List PTree)
    (hne : ∀ c ∈ (classify cs).2, ∀ s, c.sem s → s ≠ [])
    (hdisj : ∀ x, x ∈ PTree.labelsL (classify cs).2 →
      x ∉ PTree.labelsL ((classify cs).1.flatMap grandchildrenOf))
    (s : List String)
    (hs : ∃ s0 ∈ F, ∀ x, (x ∈ PTree.labelsL (classify cs).2 ∨
      x ∈ PTree.labelsL ((classify cs).1.flatMap grandchildrenOf)) → (x ∈ s0 ↔ x ∈ s))
    (hsne : s ≠ []) (hraw : (PTree.node .and cs).sem s) :
    (inferOrNode F (.node .and cs)).sem s := by
  rw [inferOrNode_and]
  split
  · exact hraw
  have key := infer_or_sound_proj F _ _ (by simpa only [labelsOfC_child] using hdisj) s
    (by simpa only [labelsOfC_child] using hs) (raw_of_sem hne hraw)
  rw [isOr_child] at key
  split
  next hck =>
    have hor := (key.1 hck).resolve_right hsne
    split
    · -- the block `+(n…)` produces the union of its members' sets
      exact newOr_sem (fun ps hP => ⟨[ps.flatten], .cons (sem_and.mpr ⟨ps, picks_sem hP, SameSet.refl _⟩) .nil,
        by simp [SameSet]⟩) (fun _ => by simp) hor
    · exact newOr_sem (fun ps hP => ⟨ps, picks_sem hP, SameSet.refl _⟩) id hor
  next hck => exact newAnd_sem (key.2 hck)

end O2P.Gate
