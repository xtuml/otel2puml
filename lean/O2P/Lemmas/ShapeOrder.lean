import O2P.Model.Store
import O2P.Lemmas.Lists
/-!
`Shape.cmp` is a lawful total order on call-tree shapes, hence sorting child shapes (insertion sort by `shapeLe`, as
`sorted(child hashes)` does on digests) is canonical: permuted lists sort to the same list.
-/
namespace O2P.Store

/-- `Shape.cmp` is lexicographic: the type first, then the children (`cmpL_cons` says the same of `cmpL`) -/
theorem cmp_mk (a b : String) (as bs : List Shape) :
    (Shape.mk a as).cmp (.mk b bs) = (compare a b).then (cmpL as bs) := by
  rw [Shape.cmp]
  -- `compare` on `String` is `String.compare`, defined as `compareOfLessAndEq`
  show _ = (compareOfLessAndEq a b).then _
  unfold compareOfLessAndEq
  by_cases h1 : a < b
  · simp [h1]
  · by_cases h2 : b < a
    · simp [h1, h2, String.ne_of_lt h2 |>.symm]
    · simp [String.le_antisymm (String.not_lt.mp h2) (String.not_lt.mp h1)]

theorem cmpL_cons (x y : Shape) (xs ys : List Shape) :
    cmpL (x :: xs) (y :: ys) = (x.cmp y).then (cmpL xs ys) := by
  rw [cmpL]; cases x.cmp y <;> rfl

mutual
theorem cmp_refl : ∀ (a : Shape), a.cmp a = .eq
  | .mk a as => by rw [cmp_mk, Std.compare_self, cmpL_refl as]; rfl
theorem cmpL_refl : ∀ (l : List Shape), cmpL l l = .eq
  | [] => by rw [cmpL]
  | x :: xs => by rw [cmpL_cons, cmp_refl x, cmpL_refl xs]; rfl
end

mutual
theorem cmp_eq : ∀ (a b : Shape), a.cmp b = .eq → a = b
  | .mk a as, .mk b bs, h => by
    rw [cmp_mk, Ordering.then_eq_eq] at h
    rw [Std.LawfulEqCmp.eq_of_compare h.1, cmpL_eq as bs h.2]
theorem cmpL_eq : ∀ (l m : List Shape), cmpL l m = .eq → l = m
  | [], [], _ => rfl
  | [], _ :: _, h => by simp [cmpL] at h
  | _ :: _, [], h => by simp [cmpL] at h
  | x :: xs, y :: ys, h => by
    rw [cmpL_cons, Ordering.then_eq_eq] at h
    rw [cmp_eq x y h.1, cmpL_eq xs ys h.2]
end

mutual
theorem cmp_swap : ∀ (a b : Shape), b.cmp a = (a.cmp b).swap
  | .mk a as, .mk b bs => by
    rw [cmp_mk, cmp_mk, Ordering.swap_then, ← cmpL_swap as bs, ← Std.OrientedCmp.eq_swap]
theorem cmpL_swap : ∀ (l m : List Shape), cmpL m l = (cmpL l m).swap
  | [], [] => by rw [cmpL]; rfl
  | [], _ :: _ => by rw [cmpL, cmpL]; rfl
  | _ :: _, [] => by rw [cmpL, cmpL]; rfl
  | x :: xs, y :: ys => by
    rw [cmpL_cons, cmpL_cons, Ordering.swap_then, ← cmpL_swap xs ys, ← cmp_swap x y]
end

/-- transitivity of `<` for a lexicographic combination, from its two components -/
theorem then_lt_trans {o₁ o₂ o₃ p₁ p₂ p₃ : Ordering}
    (ho : o₁ = .lt → o₂ = .lt → o₃ = .lt) (hl : o₁ = .eq → o₃ = o₂) (hr : o₂ = .eq → o₃ = o₁)
    (hp : p₁ = .lt → p₂ = .lt → p₃ = .lt)
    (h1 : o₁.then p₁ = .lt) (h2 : o₂.then p₂ = .lt) : o₃.then p₃ = .lt := by
  rw [Ordering.then_eq_lt] at h1 h2 ⊢
  rcases h1 with h1 | ⟨e1, h1⟩ <;> rcases h2 with h2 | ⟨e2, h2⟩
  · exact Or.inl (ho h1 h2)
  · exact Or.inl (hr e2 ▸ h1)
  · exact Or.inl (hl e1 ▸ h2)
  · exact Or.inr ⟨hl e1 ▸ e2, hp h1 h2⟩

mutual
theorem cmp_lt_trans : ∀ (a b c : Shape), a.cmp b = .lt → b.cmp c = .lt → a.cmp c = .lt
  | .mk a as, .mk b bs, .mk c cs, h1, h2 => by
    rw [cmp_mk] at h1 h2 ⊢
    exact then_lt_trans Std.TransCmp.lt_trans
      (fun e => by rw [Std.LawfulEqCmp.eq_of_compare e])
      (fun e => by rw [Std.LawfulEqCmp.eq_of_compare e]) (cmpL_lt_trans as bs cs) h1 h2
theorem cmpL_lt_trans : ∀ (l m n : List Shape), cmpL l m = .lt → cmpL m n = .lt → cmpL l n = .lt
  | [], [], _, h1, _ => by simp [cmpL] at h1
  | [], _ :: _, [], _, h2 => by simp [cmpL] at h2
  | [], _ :: _, _ :: _, _, _ => by rw [cmpL]
  | _ :: _, [], _, h1, _ => by simp [cmpL] at h1
  | _ :: _, _ :: _, [], _, h2 => by simp [cmpL] at h2
  | x :: xs, y :: ys, z :: zs, h1, h2 => by
    rw [cmpL_cons] at h1 h2 ⊢
    exact then_lt_trans (cmp_lt_trans x y z) (fun e => by rw [cmp_eq x y e])
      (fun e => by rw [cmp_eq y z e]) (cmpL_lt_trans xs ys zs) h1 h2
end

theorem shapeLe_iff (a b : Shape) : shapeLe a b = true ↔ a.cmp b ≠ .gt := by
  simp [shapeLe]

theorem shapeLe_total (a b : Shape) : shapeLe a b = true ∨ shapeLe b a = true := by
  rw [shapeLe_iff, shapeLe_iff, cmp_swap a b]
  cases a.cmp b <;> simp [Ordering.swap]

theorem shapeLe_antisymm (a b : Shape) (h1 : shapeLe a b = true) (h2 : shapeLe b a = true) : a = b := by
  rw [shapeLe_iff] at h1 h2
  rw [cmp_swap a b] at h2
  apply cmp_eq
  revert h1 h2
  cases a.cmp b <;> simp [Ordering.swap]

theorem shapeLe_trans (a b c : Shape) (h1 : shapeLe a b = true) (h2 : shapeLe b c = true) :
    shapeLe a c = true := by
  rw [shapeLe_iff] at h1 h2 ⊢
  cases hab : a.cmp b with
  | gt => exact absurd hab h1
  | eq => rw [cmp_eq a b hab]; exact h2
  | lt =>
    cases hbc : b.cmp c with
    | gt => exact absurd hbc h2
    | eq => rw [← cmp_eq b c hbc, hab]; simp
    | lt => rw [cmp_lt_trans a b c hab hbc]; simp

theorem shapeEq_iff (a b : Shape) : shapeEq a b = true ↔ a = b := by
  rw [shapeEq, beq_iff_eq]
  exact ⟨cmp_eq a b, fun e => e ▸ cmp_refl a⟩

/-- the fold by which `shapeOf` sorts the child shapes -/
def sortShapes (l : List Shape) : List Shape := l.foldr insertShape []

theorem shapeOf_succ (nodes : List Node) (fuel : Nat) (n : Node) :
    shapeOf nodes (fuel + 1) n =
      .mk n.typ (sortShapes ((nodes.filter fun m => m.parent == some n.id).map (shapeOf nodes fuel))) := rfl

theorem sortShapes_eq : sortShapes = insertionSort fun y x => !shapeLe x y := by
  have : insertShape = orderedInsert fun y x => !shapeLe x y := by
    funext x l
    induction l with
    | nil => rfl
    | cons y ys ih => rw [insertShape, orderedInsert, ih]; cases shapeLe x y <;> rfl
  funext l; rw [sortShapes, this]; rfl

open List in
theorem sortShapes_perm (l : List Shape) : sortShapes l ~ l :=
  sortShapes_eq ▸ insertionSort_perm l

open List in
theorem sortShapes_eq_of_perm {l m : List Shape} (h : l ~ m) : sortShapes l = sortShapes m :=
  sortShapes_eq ▸ insertionSort_eq_of_perm (le := (shapeLe · · = true))
    (fun a b h => (shapeLe_total b a).resolve_left (by simpa using h)) (fun a b h => by simpa using h)
    shapeLe_trans shapeLe_antisymm h

open List in
theorem sortShapes_eq_iff_perm {l m : List Shape} : sortShapes l = sortShapes m ↔ l ~ m :=
  ⟨fun h => (sortShapes_perm l).symm.trans (h ▸ sortShapes_perm m), sortShapes_eq_of_perm⟩

end O2P.Store
