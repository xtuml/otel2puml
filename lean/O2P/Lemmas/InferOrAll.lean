/-
The OR inference over the whole tree (`get_extended_or_gates_from_process_tree` = `inferOrAll`): the rewritten node
stands for the raw one (`step_good`), and its children, in each of the three shapes, keep distinct names and the `wfT`
the next step needs (`shape_nd`, `shape_wf`); `inferOrAll_goodS` is the induction on the fuel that puts them together.
-/
import O2P.Lemmas.InferOrTree
import O2P.Lemmas.Good
namespace O2P.Gate

theorem inferOrAllL_eq (F : List (List String)) (fuel : Nat) : ∀ (cs : List PTree),
    inferOrAllL F fuel cs = cs.map (inferOrAll F fuel)
  | [] => by simp [inferOrAllL]
  | c :: cs => by simp [inferOrAllL, inferOrAllL_eq F fuel cs]

theorem inferOrAll_node {F : List (List String)} {fuel : Nat} {t : PTree} {op : POp} {cs : List PTree}
    (h : inferOrNode F t = .node op cs) : inferOrAll F (fuel + 1) t = .node op (cs.map (inferOrAll F fuel)) := by
  simp only [inferOrAll, h, inferOrAllL_eq]

theorem wfL_iff {strict : Bool} {F : List (List String)} : ∀ {cs : List PTree},
    wfL strict F cs = true ↔ ∀ c ∈ cs, wfT strict F c = true
  | [] => by simp [wfL]
  | c :: cs => by simp [wfL, wfL_iff (cs := cs)]

theorem wfT_and (strict : Bool) (F : List (List String)) (cs : List PTree) :
    wfT strict F (.node .and cs) = (wfAnd strict F cs && wfL true F cs) := rfl

theorem wfT_xor (strict : Bool) (F : List (List String)) (cs : List PTree) :
    wfT strict F (.node .xor cs) = wfL (strict && (cs.any PTree.isTau || missAny F (PTree.labelsL cs))) F cs := rfl

theorem wfT_or (strict : Bool) (F : List (List String)) (cs : List PTree) :
    wfT strict F (.node .or cs) = wfL true F cs := rfl

theorem wfT_other (strict : Bool) (F : List (List String)) (cs : List PTree) :
    wfT strict F (.node .other cs) = wfL true F cs := rfl

/-- `wfAnd` as a proposition; the last conjunct: a node that may be asked for the empty set has a mandatory child -/
theorem wfAnd_iff {strict : Bool} {F : List (List String)} {cs : List PTree} :
    wfAnd strict F cs = true ↔ (classify cs).1 = [] ∨
      ((∀ c ∈ (classify cs).2, canEmpty c = false) ∧
       (∀ x ∈ PTree.labelsL (classify cs).2, x ∉ PTree.labelsL ((classify cs).1.flatMap grandchildrenOf)) ∧
       (strict = true → (classify cs).2 ≠ [] ∨ missAny F (PTree.labelsL cs) = false)) := by
  cases strict <;> simp [wfAnd, disjointS_iff, and_assoc]

theorem labelsL_removed_sublist : ∀ (tc : List PTree),
    (PTree.labelsL (tc.flatMap grandchildrenOf)).Sublist (PTree.labelsL tc)
  | [] => .slnil
  | c :: tc => by
    simp only [List.flatMap_cons, labelsL_append, labelsL_cons]
    refine List.Sublist.append ?_ (labelsL_removed_sublist tc)
    match c with
    | .leaf _ | .tau => exact List.nil_sublist _
    | .node _ gcs => exact labelsL_sublist List.filter_sublist

/-- What the disjunct `cs.any PTree.isTau` in `wfT`'s clause for a choice is for: the alternatives of an optional branch
`X(tau, g…)` are re-parented under the new OR node, whose children may always be asked for the empty set. -/
theorem grandchild_wf {F : List (List String)} (cs : List PTree)
    (h : ∀ c ∈ (classify cs).1, wfT true F c = true) :
    ∀ g ∈ (classify cs).1.flatMap grandchildrenOf, wfT true F g = true := by
  intro g hg
  obtain ⟨c, hc, hgc⟩ := List.mem_flatMap.mp hg
  obtain ⟨gcs, rfl, hany⟩ := isOpt_iff.mp (classify_opt cs c hc)
  have hw := h _ hc
  rw [wfT_xor, hany, Bool.true_or, Bool.and_self] at hw
  exact wfL_iff.mp hw g (List.mem_filter.mp hgc).1

/-- what the rewritten node's children are -/
inductive Shape (removed nonTau : List PTree) : POp → List PTree → Prop where
  | orBlock : Shape removed nonTau .or (removed ++ [.node .and nonTau])
  | orFlat : Shape removed nonTau .or (removed ++ nonTau)
  | andOr : Shape removed nonTau .and (nonTau ++ [.node .or removed])

theorem inferOrNode_shape (F : List (List String)) (cs : List PTree) (hte : (classify cs).1.isEmpty = false) :
    ∃ op1 cs1, inferOrNode F (.node .and cs) = .node op1 cs1 ∧
      Shape ((classify cs).1.flatMap grandchildrenOf) (classify cs).2 op1 cs1 := by
  rw [inferOrNode_and, hte, if_neg Bool.false_ne_true]
  split
  · split
    · exact ⟨_, _, rfl, .orBlock⟩
    · exact ⟨_, _, rfl, .orFlat⟩
  · exact ⟨_, _, rfl, .andOr⟩

theorem shape_perm {removed nonTau : List PTree} {op1 : POp} {cs1 : List PTree} (h : Shape removed nonTau op1 cs1) :
    (PTree.labelsL cs1).Perm (PTree.labelsL removed ++ PTree.labelsL nonTau) := by
  cases h
  · simp [labelsL_append, labelsL_cons, labelsL_nil, labels_node]
  · rw [labelsL_append]
  · simpa [labelsL_append, labelsL_cons, labelsL_nil, labels_node] using List.perm_append_comm

theorem shape_nd {removed nonTau : List PTree} {op1 : POp} {cs1 : List PTree} (h : Shape removed nonTau op1 cs1)
    (hr : (NE (PTree.labelsL removed)).Nodup) (hn : (NE (PTree.labelsL nonTau)).Nodup)
    (hd : ∀ x ∈ PTree.labelsL nonTau, x ∉ PTree.labelsL removed) : (NE (PTree.labelsL cs1)).Nodup := by
  have hp : (NE (PTree.labelsL cs1)).Perm (NE (PTree.labelsL removed) ++ NE (PTree.labelsL nonTau)) :=
    NE_append .. ▸ (shape_perm h).filter _
  exact hp.nodup_iff.mpr
    (List.nodup_append.mpr ⟨hr, hn, fun a ha b hb e => hd b (mem_NE.mp hb).1 (e ▸ (mem_NE.mp ha).1)⟩)

theorem shape_wf {F : List (List String)} {removed nonTau : List PTree} {op1 : POp} {cs1 : List PTree}
    (h : Shape removed nonTau op1 cs1)
    (hr : ∀ c ∈ removed, wfT true F c = true) (hn : ∀ c ∈ nonTau, wfT true F c = true)
    (hcl : classify nonTau = ([], nonTau)) : ∀ c ∈ cs1, wfT true F c = true := by
  intro c hc
  cases h with
  | orBlock =>
    -- the block `+(n…)` has no optional branch
    have hblock : wfT true F (.node .and nonTau) = true := by
      rw [wfT_and, wfAnd_iff.mpr (Or.inl (congrArg Prod.fst hcl)), wfL_iff.mpr hn]
      rfl
    exact (List.mem_append.mp hc).elim (hr c) fun hc => List.mem_singleton.mp hc ▸ hblock
  | orFlat => exact (List.mem_append.mp hc).elim (hr c) (hn c)
  | andOr =>
    have hor : wfT true F (.node .or removed) = true := (wfT_or true F removed).trans (wfL_iff.mpr hr)
    exact (List.mem_append.mp hc).elim (hn c) fun hc => List.mem_singleton.mp hc ▸ hor

theorem step_good (F : List (List String)) (strict : Bool) (cs : List PTree)
    (hte : (classify cs).1.isEmpty = false) (hw : wfAnd strict F cs = true) :
    GoodS strict F (.node .and cs) (inferOrNode F (.node .and cs)) := by
  obtain ⟨hall, hdj, hstrict⟩ := (wfAnd_iff.mp hw).resolve_left (List.isEmpty_eq_false_iff.mp hte)
  have hsub := classify_sublist cs
  have hN := labelsL_sublist hsub.2
  have hR := (labelsL_removed_sublist _).trans (labelsL_sublist hsub.1)
  have hne : ∀ c ∈ (classify cs).2, ∀ s, c.sem s → s ≠ [] := by
    rintro c hc s hs rfl
    exact Bool.false_ne_true ((hall c hc).symm.trans (sem_nil_canEmpty c hs))
  obtain ⟨op1, cs1, he, hsh⟩ := inferOrNode_shape F cs hte
  refine ⟨fun s hguard hp hraw => ?_, ?_, fun hnd => ?_⟩
  · by_cases hsne : s = []
    · -- asked for the empty set, every child produces it: there is no mandatory child, which `wfAnd` excludes
      subst hsne
      have hnil : (classify cs).2 = [] := List.eq_nil_iff_forall_not_mem.mpr fun c hc =>
        hne c hc [] (sem_and_nil hraw c (hsub.2.subset hc)) rfl
      rcases hstrict (hguard.resolve_left fun h => h rfl) with h | h
      · exact absurd hnil h
      · exact absurd (h.symm.trans (missAny_of_proj hp)) Bool.false_ne_true
    · obtain ⟨s0, hs0, hag⟩ := hp
      exact infer_or_tree_sound_proj F cs hne hdj s
        ⟨s0, hs0, fun x hx => hag x (hx.elim (hN.subset ·) (hR.subset ·))⟩ hsne hraw
  · rw [he]
    exact fun x hx => (List.mem_append.mp ((shape_perm hsh).mem_iff.mp hx)).elim (hR.subset ·) (hN.subset ·)
  · rw [he]
    exact shape_nd hsh ((NE_sublist hR).nodup hnd) ((NE_sublist hN).nodup hnd) hdj

theorem inferOrAll_goodS (F : List (List String)) (hF : ∀ s0 ∈ F, "" ∉ s0) : ∀ (fuel : Nat) (strict : Bool)
    (t : PTree), wfT strict F t = true → (NE t.labels).Nodup → GoodS strict F t (inferOrAll F fuel t)
  | 0, strict, _, _, _ | _ + 1, strict, .leaf _, _, _ | _ + 1, strict, .tau, _, _ => by
    simpa only [inferOrAll, inferOrNode] using (Good.refl F _).toS strict
  | fuel + 1, strict, .node op cs, hw, hnd => by
    -- the children of a node, rewritten by the recursive calls; they are always asked, except below a choice
    have children : ∀ (op : POp) (cs : List PTree), wfL true F cs = true → (NE (PTree.labelsL cs)).Nodup →
        Good F (.node op cs) (.node op (cs.map (inferOrAll F fuel))) := fun op cs hwl hndl =>
      node_congr hF op hndl (Rel2.map_right fun c hc =>
        (inferOrAll_goodS F hF fuel true c (wfL_iff.mp hwl c hc) (nodup_labels_child hndl hc)).toGood)
    have unchanged : wfL true F cs = true → inferOrNode F (.node op cs) = .node op cs →
        GoodS strict F (.node op cs) (inferOrAll F (fuel + 1) (.node op cs)) := fun hwl hid =>
      inferOrAll_node hid ▸ (children op cs hwl hnd).toS strict
    cases op with
    | xor =>
      -- the children are asked with the flag of `wfT_xor`, which is `node_congrS`'s at a choice
      rw [wfT_xor] at hw
      rw [inferOrAll_node rfl]
      exact node_congrS hF strict .xor hnd (Rel2.map_right fun c hc =>
        inferOrAll_goodS F hF fuel _ c (wfL_iff.mp hw c hc) (nodup_labels_child hnd hc))
    | or => exact unchanged (wfT_or strict F cs ▸ hw) rfl
    | other => exact unchanged (wfT_other strict F cs ▸ hw) rfl
    | and =>
      rw [wfT_and, Bool.and_eq_true] at hw
      cases hte : (classify cs).1.isEmpty with
      | true => exact unchanged hw.2 (by rw [inferOrNode_and, if_pos hte])
      | false =>
        have hsub := classify_sublist cs
        have hstep := step_good F strict cs hte hw.1
        obtain ⟨op1, cs1, he, hsh⟩ := inferOrNode_shape F cs hte
        rw [inferOrAll_node he]
        rw [he] at hstep
        refine hstep.trans (children op1 cs1 (wfL_iff.mpr (shape_wf hsh ?_ ?_ (classify_nonTau cs))) (hstep.nd hnd))
        · exact grandchild_wf cs fun c hc => wfL_iff.mp hw.2 c (hsub.1.subset hc)
        · exact fun c hc => wfL_iff.mp hw.2 c (hsub.2.subset hc)

end O2P.Gate
