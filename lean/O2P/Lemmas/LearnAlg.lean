import O2P.Model.Learn
/-!
A model is read as the set of `Fact`s it `holds` (those its events hold), a job as the set it `shows`.  Every
operation of the learner adds a set of facts, so after ingestion the model holds exactly what it held before and
what the jobs show: `ingest_sem`.
-/
namespace O2P.Learn

/-- the family holds the multiset `T`, in some order -/
def famSem (fam : List ESet) (T : ESet) : Prop := ∃ S ∈ fam, S.Perm T

def hasType (m : Model) (t : String) : Prop := ∃ e ∈ m, e.typ = t
/-- the inner `∃` is `famSem e.outs T` written out (`famSem e.ins T` in `inSem`) -/
def outSem (m : Model) (t : String) (T : ESet) : Prop := ∃ e ∈ m, e.typ = t ∧ ∃ S ∈ e.outs, S.Perm T
def inSem (m : Model) (t : String) (T : ESet) : Prop := ∃ e ∈ m, e.typ = t ∧ ∃ S ∈ e.ins, S.Perm T

/-- what a model can hold and a job can show: an event type, a multiset directly after one, directly before one -/
inductive Fact where
  | type (t : String)
  | out (t : String) (T : ESet)
  | inn (t : String) (T : ESet)

def Ev.holds (e : Ev) : Fact → Prop
  | .type t => e.typ = t
  | .out t T => e.typ = t ∧ famSem e.outs T
  | .inn t T => e.typ = t ∧ famSem e.ins T

def holds (m : Model) : Fact → Prop
  | .type t => hasType m t
  | .out t T => outSem m t T
  | .inn t T => inSem m t T

theorem holds_iff (m : Model) (φ : Fact) : holds m φ ↔ ∃ e ∈ m, e.holds φ := by cases φ <;> rfl

theorem holds_map (m : Model) (f : Ev → Ev) (φ : Fact) : holds (m.map f) φ ↔ ∃ e ∈ m, (f e).holds φ := by
  rw [holds_iff]
  constructor
  · rintro ⟨_, he', h⟩
    obtain ⟨e, he, rfl⟩ := List.mem_map.mp he'
    exact ⟨e, he, h⟩
  · rintro ⟨e, he, h⟩
    exact ⟨f e, List.mem_map_of_mem he, h⟩

/-- the same event types and the same multisets, that is, the same facts (`equiv_iff`) -/
def Equiv (m m' : Model) : Prop :=
  (∀ t, hasType m t ↔ hasType m' t) ∧ (∀ t T, outSem m t T ↔ outSem m' t T) ∧ (∀ t T, inSem m t T ↔ inSem m' t T)

theorem equiv_iff {m m' : Model} : Equiv m m' ↔ ∀ φ, holds m φ ↔ holds m' φ :=
  ⟨fun h φ => match φ with | .type t => h.1 t | .out t T => h.2.1 t T | .inn t T => h.2.2 t T,
   fun h => ⟨fun t => h (.type t), fun t T => h (.out t T), fun t T => h (.inn t T)⟩⟩

theorem Equiv.refl (m : Model) : Equiv m m := ⟨fun _ => Iff.rfl, fun _ _ => Iff.rfl, fun _ _ => Iff.rfl⟩
theorem Equiv.symm {m m' : Model} (h : Equiv m m') : Equiv m' m :=
  ⟨fun t => (h.1 t).symm, fun t T => (h.2.1 t T).symm, fun t T => (h.2.2 t T).symm⟩
theorem Equiv.trans {a b c : Model} (h1 : Equiv a b) (h2 : Equiv b c) : Equiv a c :=
  equiv_iff.mpr fun φ => (equiv_iff.mp h1 φ).trans (equiv_iff.mp h2 φ)

theorem equiv_map {f : Ev → Ev} (h : ∀ e φ, (f e).holds φ ↔ e.holds φ) (m : Model) : Equiv (m.map f) m :=
  equiv_iff.mpr fun φ => by rw [holds_map, holds_iff]; simp only [h]

theorem hasSet_iff (fam : List ESet) (S : ESet) : hasSet fam S = true ↔ famSem fam S := by
  simp only [hasSet, famSem, List.any_eq_true, List.isPerm_iff]

theorem famSem_addSetRaw (fam : List ESet) (S T : ESet) :
    famSem (fromJson.addSetRaw fam S) T ↔ famSem fam T ∨ S.Perm T := by
  unfold fromJson.addSetRaw
  split
  · next hs =>
    obtain ⟨X, hX, hp⟩ := (hasSet_iff fam S).mp hs
    exact ⟨Or.inl, fun h => h.elim id fun h => ⟨X, hX, hp.trans h⟩⟩
  · simp only [famSem, List.mem_append, List.mem_singleton, or_and_right, exists_or, exists_eq_left]

theorem famSem_addSet (fam : List ESet) (S T : ESet) :
    famSem (addSet fam S) T ↔ famSem fam T ∨ (S ≠ [] ∧ S.Perm T) := by
  -- the loader's `addSetRaw` behind the guard of `update_event_sets`
  have e : addSet fam S = if S = [] then fam else fromJson.addSetRaw fam S := by
    cases S <;> simp [addSet, fromJson.addSetRaw]
  rw [e]
  split
  · next h => simp [h]
  · next h => simp [famSem_addSetRaw, h]

theorem ensure_mem (m : Model) (t : String) (e : Ev) :
    e ∈ ensure m t ↔ e ∈ m ∨ (¬ hasType m t ∧ e = ⟨t, [], []⟩) := by
  have : m.any (·.typ == t) = true ↔ hasType m t := by simp [hasType]
  unfold ensure
  split
  · next h => simp [this.mp h]
  · next h => simp [mt this.mpr h]

theorem holds_ensure (m : Model) (t : String) (φ : Fact) : holds (ensure m t) φ ↔ holds m φ ∨ φ = .type t := by
  have new : (⟨t, [], []⟩ : Ev).holds φ ↔ φ = .type t := by cases φ <;> simp [Ev.holds, famSem, eq_comm]
  have : holds (ensure m t) φ ↔ holds m φ ∨ (¬ hasType m t ∧ φ = .type t) := by
    simp only [holds_iff, ensure_mem, or_and_right, exists_or, and_assoc, exists_and_left, exists_eq_left, new]
  -- a type the model has already is no news
  refine this.trans ⟨Or.imp_right And.right, ?_⟩
  rintro (h | rfl)
  · exact Or.inl h
  · exact (Classical.em (hasType m t)).imp_right (⟨·, rfl⟩)

theorem hasType_ensure (m : Model) (t u : String) : hasType (ensure m t) u ↔ hasType m u ∨ u = t :=
  (holds_ensure m t (.type u)).trans (or_congr_right (by rw [Fact.type.injEq]))
theorem outSem_ensure (m : Model) (t u : String) (T : ESet) : outSem (ensure m t) u T ↔ outSem m u T :=
  (holds_ensure m t (.out u T)).trans (or_iff_left Fact.noConfusion)
theorem inSem_ensure (m : Model) (t u : String) (T : ESet) : inSem (ensure m t) u T ↔ inSem m u T :=
  (holds_ensure m t (.inn u T)).trans (or_iff_left Fact.noConfusion)

/-- `updOut` and `updIn` change the events of type `t` by some `g`, after `ensure` has made sure there is one:
if `g` adds the facts `add e.typ` to what an event `e` holds, the model gains `add t` -/
theorem holds_modify {m : Model} (t : String) (ht : hasType m t) {g : Ev → Ev} (add : String → Fact → Prop)
    (hg : ∀ e φ, (g e).holds φ ↔ e.holds φ ∨ add e.typ φ) (φ : Fact) :
    holds (m.map fun e => if e.typ == t then g e else e) φ ↔ holds m φ ∨ add t φ := by
  rw [holds_map, holds_iff]
  constructor
  · rintro ⟨e, he, h⟩
    split at h
    · next het => exact (eq_of_beq het ▸ (hg e φ).mp h).imp_left fun h => ⟨e, he, h⟩
    · exact Or.inl ⟨e, he, h⟩
  · rintro (⟨e, he, h⟩ | h)
    · refine ⟨e, he, ?_⟩
      split
      · exact (hg e φ).mpr (Or.inl h)
      · exact h
    · obtain ⟨e, he, rfl⟩ := ht
      exact ⟨e, he, by rw [if_pos (beq_self_eq_true _)]; exact (hg e φ).mpr (Or.inr h)⟩

/-- what `updOut m t S` adds to a model -/
def outFact (t : String) (S : ESet) : Fact → Prop
  | .type u => u = t
  | .out u T => u = t ∧ S ≠ [] ∧ S.Perm T
  | .inn _ _ => False

/-- what `updIn m t S` adds to a model -/
def inFact (t : String) (S : ESet) : Fact → Prop
  | .type u => u = t
  | .out _ _ => False
  | .inn u T => u = t ∧ S ≠ [] ∧ S.Perm T

theorem Ev.holds_addOut (e : Ev) (S : ESet) (φ : Fact) :
    ({ e with outs := addSet e.outs S } : Ev).holds φ ↔ e.holds φ ∨ outFact e.typ S φ := by
  cases φ <;> simp [Ev.holds, outFact, famSem_addSet, and_or_left, eq_comm]

theorem Ev.holds_addIn (e : Ev) (S : ESet) (φ : Fact) :
    ({ e with ins := addSet e.ins S } : Ev).holds φ ↔ e.holds φ ∨ inFact e.typ S φ := by
  cases φ <;> simp [Ev.holds, inFact, famSem_addSet, and_or_left, eq_comm]

theorem holds_updOut (m : Model) (t : String) (S : ESet) (φ : Fact) :
    holds (updOut m t S) φ ↔ holds m φ ∨ outFact t S φ := by
  unfold updOut
  rw [holds_modify t ((hasType_ensure m t t).mpr (Or.inr rfl)) (outFact · S) (Ev.holds_addOut · S),
    holds_ensure, or_assoc]
  -- the type `t`, which `ensure` added, is among the facts `outFact t S`
  exact or_congr_right (or_iff_right_of_imp fun h => h ▸ rfl)

theorem holds_updIn (m : Model) (t : String) (S : ESet) (φ : Fact) :
    holds (updIn m t S) φ ↔ holds m φ ∨ inFact t S φ := by
  unfold updIn
  rw [holds_modify t ((hasType_ensure m t t).mpr (Or.inr rfl)) (inFact · S) (Ev.holds_addIn · S),
    holds_ensure, or_assoc]
  exact or_congr_right (or_iff_right_of_imp fun h => h ▸ rfl)

theorem hasType_updOut (m : Model) (t : String) (S : ESet) (u : String) :
    hasType (updOut m t S) u ↔ hasType m u ∨ u = t := holds_updOut m t S (.type u)
theorem outSem_updOut (m : Model) (t : String) (S : ESet) (u : String) (T : ESet) :
    outSem (updOut m t S) u T ↔ outSem m u T ∨ (u = t ∧ S ≠ [] ∧ S.Perm T) := holds_updOut m t S (.out u T)
theorem inSem_updOut (m : Model) (t : String) (S : ESet) (u : String) (T : ESet) :
    inSem (updOut m t S) u T ↔ inSem m u T := (holds_updOut m t S (.inn u T)).trans (iff_of_eq (or_false _))
theorem hasType_updIn (m : Model) (t : String) (S : ESet) (u : String) :
    hasType (updIn m t S) u ↔ hasType m u ∨ u = t := holds_updIn m t S (.type u)
theorem inSem_updIn (m : Model) (t : String) (S : ESet) (u : String) (T : ESet) :
    inSem (updIn m t S) u T ↔ inSem m u T ∨ (u = t ∧ S ≠ [] ∧ S.Perm T) := holds_updIn m t S (.inn u T)
theorem outSem_updIn (m : Model) (t : String) (S : ESet) (u : String) (T : ESet) :
    outSem (updIn m t S) u T ↔ outSem m u T := (holds_updIn m t S (.out u T)).trans (iff_of_eq (or_false _))

/-- a fold whose every step adds an alternative adds them all -/
theorem foldl_adds {σ α : Type} (P : σ → Prop) (step : σ → α → σ) (add : α → Prop)
    (h : ∀ s a, P (step s a) ↔ P s ∨ add a) : ∀ (l : List α) (s : σ), P (l.foldl step s) ↔ P s ∨ ∃ a ∈ l, add a
  | [], s => by simp
  | a :: l, s => by
    rw [List.foldl_cons, foldl_adds P step add h l, h]
    simp only [List.mem_cons, exists_eq_or_imp, or_assoc]

def obsType (job : List PV) (u : String) : Prop := (∃ e ∈ job, e.typ = u) ∨ u = dummyStart

def obsOut (job : List PV) (u : String) (T : ESet) : Prop :=
  (∃ e ∈ job, e.typ = u ∧ postTypes job e ≠ [] ∧ (postTypes job e).Perm T) ∨
  (u = dummyStart ∧ startTypes job ≠ [] ∧ (startTypes job).Perm T)

def obsIn (job : List PV) (u : String) (T : ESet) : Prop :=
  ∃ e ∈ job, e.typ = u ∧ prevTypes job e ≠ [] ∧ (prevTypes job e).Perm T

def shows (job : List PV) : Fact → Prop
  | .type u => obsType job u
  | .out u T => obsOut job u T
  | .inn u T => obsIn job u T

/-- what the event `e` of `job` contributes -/
def evFact (job : List PV) (e : PV) (φ : Fact) : Prop :=
  outFact e.typ (postTypes job e) φ ∨ inFact e.typ (prevTypes job e) φ

theorem shows_iff (job : List PV) (φ : Fact) :
    shows job φ ↔ (∃ e ∈ job, evFact job e φ) ∨ outFact dummyStart (startTypes job) φ := by
  cases φ with
  | type u => simp [shows, evFact, outFact, inFact, obsType, @eq_comm _ u]
  | out u T => simp [shows, evFact, outFact, inFact, obsOut, @eq_comm _ u]
  | inn u T => simp [shows, evFact, outFact, inFact, obsIn, @eq_comm _ u]

theorem holds_ingestJob (m : Model) (job : List PV) (φ : Fact) :
    holds (ingestJob m job) φ ↔ holds m φ ∨ shows job φ := by
  unfold ingestJob
  rw [holds_updOut, shows_iff, ← or_assoc]
  refine or_congr_left (foldl_adds (holds · φ) _ (evFact job · φ) (fun m e => ?_) job m)
  rw [holds_updIn, holds_updOut, or_assoc]; rfl

theorem holds_ingest (jobs : List (List PV)) (m : Model) (φ : Fact) :
    holds (ingest m jobs) φ ↔ holds m φ ∨ ∃ j ∈ jobs, shows j φ :=
  foldl_adds (holds · φ) ingestJob (shows · φ) (holds_ingestJob · · φ) jobs m

/-- ingestion adds exactly what the jobs show: the learned model is the set of observed successor and
predecessor multisets per event type -/
theorem ingest_sem : ∀ (jobs : List (List PV)) (m : Model),
    (∀ u, hasType (ingest m jobs) u ↔ hasType m u ∨ ∃ j ∈ jobs, obsType j u) ∧
    (∀ u T, outSem (ingest m jobs) u T ↔ outSem m u T ∨ ∃ j ∈ jobs, obsOut j u T) ∧
    (∀ u T, inSem (ingest m jobs) u T ↔ inSem m u T ∨ ∃ j ∈ jobs, obsIn j u T) :=
  fun jobs m => ⟨fun u => holds_ingest jobs m (.type u), fun u T => holds_ingest jobs m (.out u T),
    fun u T => holds_ingest jobs m (.inn u T)⟩

theorem ingest_induction {P : Model → Prop} (hO : ∀ m t S, P m → P (updOut m t S))
    (hI : ∀ m t S, P m → P (updIn m t S)) {m : Model} (h : P m) (jobs : List (List PV)) : P (ingest m jobs) :=
  List.foldlRecOn jobs ingestJob h fun _ hm job _ =>
    hO _ _ _ (List.foldlRecOn job _ hm fun _ hm _ _ => hI _ _ _ (hO _ _ _ hm))

/-- the learned model is a function of what the model held and what the jobs show -/
theorem equiv_ingest_iff (m m' : Model) (jobs jobs' : List (List PV)) :
    Equiv (ingest m jobs) (ingest m' jobs') ↔
      ∀ φ, (holds m φ ∨ ∃ j ∈ jobs, shows j φ) ↔ (holds m' φ ∨ ∃ j ∈ jobs', shows j φ) := by
  simp only [equiv_iff, holds_ingest]

theorem ingest_congr (jobs : List (List PV)) (m m' : Model) (h : Equiv m m') :
    Equiv (ingest m jobs) (ingest m' jobs) :=
  (equiv_ingest_iff ..).mpr fun φ => or_congr_left (equiv_iff.mp h φ)

theorem ingest_equiv_of_same_obs (m : Model) (jobs jobs' : List (List PV))
    (h : ∀ φ, (∃ j ∈ jobs, shows j φ) ↔ ∃ j ∈ jobs', shows j φ) :
    Equiv (ingest m jobs) (ingest m jobs') :=
  (equiv_ingest_iff ..).mpr fun φ => or_congr_right (h φ)

end O2P.Learn
