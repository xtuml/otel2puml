/-
The enumeration `treesWith d op evs` behind C06's quantifier is well-formed by construction (`treesWith_spec`), for every
depth bound and every list of events.
-/
import O2P.Model.Gate
import O2P.Lemmas.Rel2
namespace O2P.Gate

theorem alternatingL_eq : ∀ cs, alternatingL cs = cs.all alternating
  | [] => rfl
  | c :: cs => by rw [alternatingL, alternatingL_eq cs, List.all_cons]

theorem depthL_le {d : Nat} : ∀ {cs : List Gate}, depthL cs ≤ d ↔ ∀ c ∈ cs, depth c ≤ d
  | [] => by simp [depthL]
  | c :: cs => by rw [depthL, Nat.max_le, depthL_le (cs := cs), List.forall_mem_cons]

theorem leavesL_perm {p : List (List String)} {cs : List Gate} (h : Rel2 (fun b c => (leaves c).Perm b) p cs) :
    (leavesL cs).Perm p.flatten := by
  induction h with
  | nil => exact .refl _
  | cons h _ ih => exact h.append ih

theorem flatten_modify_cons {α : Type} (x : α) : ∀ (p : List (List α)) (i : Nat), i < p.length →
    (p.modify i (x :: ·)).flatten.Perm (x :: p.flatten)
  | _ :: _, 0, _ => .refl _
  | b :: bs, i + 1, h =>
    ((flatten_modify_cons x bs i (Nat.lt_of_succ_lt_succ h)).append_left b).trans List.perm_middle

theorem partitions_flatten {α : Type} : ∀ (l : List α) (p : List (List α)), p ∈ partitions l → p.flatten.Perm l
  | [], p, h => by
    cases List.mem_singleton.mp h
    exact .refl _
  | x :: xs, p, h => by
    simp only [partitions, List.mem_flatMap, List.mem_cons, List.mem_map, List.mem_range] at h
    -- `x` opens a block of its own, or joins the `i`-th block of a partition `q` of the rest
    obtain ⟨q, hq, rfl | ⟨i, hi, rfl⟩⟩ := h
    · exact (partitions_flatten xs q hq).cons x
    · exact (flatten_modify_cons x q i hi).trans ((partitions_flatten xs q hq).cons x)

/-- block by block, a child is the block's one event or one of `sub`'s trees over the block under another operator -/
theorem childChoices_rel {sub : Op → List String → List Gate} {op : Op} :
    ∀ {bs : List (List String)} {cs : List Gate}, cs ∈ childChoices sub op bs →
      Rel2 (fun b c => (∃ a, b = [a] ∧ c = .leaf a) ∨ ∃ op2, op2 ≠ op ∧ c ∈ sub op2 b) bs cs
  | [], cs, h => by
    cases List.mem_singleton.mp h
    exact .nil
  | b :: bs, cs, h => by
    simp only [childChoices, List.mem_flatMap, List.mem_map] at h
    obtain ⟨c, hc, rest, hrest, rfl⟩ := h
    refine .cons ?_ (childChoices_rel hrest)
    split at hc
    · exact Or.inl ⟨_, rfl, List.mem_singleton.mp hc⟩
    · obtain ⟨op2, hop2, hc⟩ := List.mem_flatMap.mp hc
      exact Or.inr ⟨op2, by simpa using (List.mem_filter.mp hop2).2, hc⟩

theorem treesWith_spec : ∀ {d : Nat} {op : Op} {evs : List String} {g : Gate}, g ∈ treesWith d op evs →
    (∃ cs, g = .node op cs) ∧ alternating g = true ∧ depth g ≤ d ∧ (leaves g).Perm evs
  | 0, _, _, _, h => nomatch h
  | d + 1, op, evs, g, h => by
    simp only [treesWith, List.mem_flatMap, List.mem_filter, List.mem_map, decide_eq_true_eq] at h
    obtain ⟨p, ⟨hp, hlen⟩, cs, hcs, rfl⟩ := h
    -- a child is an event, or by induction a tree one level shallower under another operator; over its block
    have child : Rel2 (fun b c => ((match c with | .node op2 _ => op2 != op | .leaf _ => true) = true ∧
        alternating c = true ∧ depth c ≤ d) ∧ (leaves c).Perm b) p cs :=
      (childChoices_rel hcs).imp fun h => by
        rcases h with ⟨a, rfl, rfl⟩ | ⟨op2, hne, hc⟩
        · exact ⟨⟨rfl, rfl, Nat.zero_le d⟩, .refl _⟩
        · obtain ⟨⟨cs', rfl⟩, h1, h2, h3⟩ := treesWith_spec hc
          exact ⟨⟨by simpa using hne, h1, h2⟩, h3⟩
    have of_child := fun c (hc : c ∈ cs) => (child.mem_right c hc).elim fun _ h => h.2.1
    refine ⟨⟨cs, rfl⟩, ?_, ?_, ?_⟩
    · simp only [alternating, alternatingL_eq, Bool.and_eq_true, decide_eq_true_eq, List.all_eq_true]
      exact ⟨⟨child.length_eq ▸ hlen, fun c hc => (of_child c hc).1⟩, fun c hc => (of_child c hc).2.1⟩
    · rw [depth, Nat.add_comm]
      exact Nat.succ_le_succ (depthL_le.mpr fun c hc => (of_child c hc).2.2)
    · exact (leavesL_perm (child.imp And.right)).trans (partitions_flatten evs p hp)

end O2P.Gate
