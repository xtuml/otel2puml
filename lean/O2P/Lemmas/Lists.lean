/-!
List functions that several models have under their own names (instances: `sortBy_eq`, `firstOcc_eq`, …): insertion
sort by a Boolean test, first occurrences under an equality test; `mapM` into `Option` where every element has an
image; `find?` under tests that agree on the list; `flatMap` where the function fixes every element.
-/
namespace O2P

variable {α : Type}

theorem mapM_eq_some_map {β : Type} {f : α → Option β} {g : α → β} : ∀ {l : List α},
    (∀ x ∈ l, f x = some (g x)) → l.mapM f = some (l.map g)
  | [], _ => rfl
  | x :: xs, h => by
    rw [List.mapM_cons, h x List.mem_cons_self, mapM_eq_some_map fun y hy => h y (List.mem_cons_of_mem _ hy)]; rfl

theorem eq_map_of_mapM_eq_some {β : Type} {f : α → Option β} {g : α → β} (h : ∀ x y, f x = some y → g x = y) :
    ∀ {l : List α} {img : List β}, l.mapM f = some img → img = l.map g
  | [], _, hm => by cases hm; rfl
  | x :: xs, _, hm => by
    simp only [List.mapM_cons, Option.bind_eq_bind, Option.bind_eq_some_iff, Option.pure_def, Option.some.injEq] at hm
    obtain ⟨y, hy, ys, hys, rfl⟩ := hm
    rw [List.map_cons, h x y hy, eq_map_of_mapM_eq_some h hys]

/-- `x` goes in front of the first `y` without `lt y x`. `lt` takes the list element first because the models' inserts
walk past the elements that go in front of `x`; one that stops at the first `y` with `le x y` is the instance
`fun y x => !le x y`. -/
def orderedInsert (lt : α → α → Bool) (x : α) : List α → List α
  | [] => [x]
  | y :: ys => if lt y x then y :: orderedInsert lt x ys else x :: y :: ys

def insertionSort (lt : α → α → Bool) (l : List α) : List α := l.foldr (orderedInsert lt) []

open List in
theorem orderedInsert_perm (lt : α → α → Bool) (x : α) (l : List α) : orderedInsert lt x l ~ x :: l := by
  fun_induction orderedInsert lt x l with
  | case1 => exact .refl _
  | case2 y ys _ ih => exact (ih.cons y).trans (.swap x y ys)
  | case3 y ys _ => exact .refl _

open List in
theorem insertionSort_perm {lt : α → α → Bool} : ∀ (l : List α), insertionSort lt l ~ l
  | [] => Perm.refl _
  | x :: xs => (orderedInsert_perm lt x _).trans ((insertionSort_perm xs).cons x)

section sorted
variable {lt : α → α → Bool} {le : α → α → Prop}
  (hlt : ∀ a b, lt a b = true → le a b) (hge : ∀ a b, lt a b = false → le b a)
  (trans : ∀ a b c, le a b → le b c → le a c)
include hlt hge trans

theorem orderedInsert_sorted (x : α) (l : List α) (h : l.Pairwise le) :
    (orderedInsert lt x l).Pairwise le := by
  fun_induction orderedInsert lt x l with
  | case1 => exact List.pairwise_singleton _ _
  | case2 y ys c ih =>
    have ⟨hy, hys⟩ := List.pairwise_cons.mp h
    refine List.pairwise_cons.mpr ⟨fun z hz => ?_, ih hys⟩
    rcases List.mem_cons.mp ((orderedInsert_perm lt x ys).subset hz) with rfl | hz
    · exact hlt y z c
    · exact hy z hz
  | case3 y ys c =>
    have hxy := hge y x (Bool.not_eq_true _ ▸ c)
    exact List.pairwise_cons.mpr
      ⟨List.forall_mem_cons.mpr ⟨hxy, fun z hz => trans x y z hxy (List.rel_of_pairwise_cons h hz)⟩, h⟩

theorem insertionSort_sorted : ∀ (l : List α), (insertionSort lt l).Pairwise le
  | [] => List.Pairwise.nil
  | x :: xs => orderedInsert_sorted hlt hge trans x _ (insertionSort_sorted xs)

open List in
theorem insertionSort_eq_of_perm (antisymm : ∀ a b, le a b → le b a → a = b) {l m : List α}
    (h : l ~ m) : insertionSort lt l = insertionSort lt m :=
  Perm.eq_of_pairwise (fun a b _ _ => antisymm a b)
    (insertionSort_sorted hlt hge trans l) (insertionSort_sorted hlt hge trans m)
    ((insertionSort_perm l).trans (h.trans (insertionSort_perm m).symm))
end sorted

/-- an element stays unless an earlier one is the `same` -/
def firsts (same : α → α → Bool) : List α → List α
  | [] => []
  | x :: xs => x :: (firsts same xs).filter fun y => !same y x

theorem firsts_sublist (same : α → α → Bool) : ∀ (l : List α), (firsts same l).Sublist l
  | [] => .slnil
  | x :: xs => (List.filter_sublist.trans (firsts_sublist same xs)).cons_cons x

theorem map_firsts {β : Type} (f : α → β) {same : α → α → Bool} {same' : β → β → Bool}
    (h : ∀ a b, same a b = same' (f a) (f b)) : ∀ (l : List α), (firsts same l).map f = firsts same' (l.map f)
  | [] => rfl
  | x :: xs => by
    rw [firsts, List.map_cons, List.map_cons, firsts, ← map_firsts f h xs, List.filter_map]
    simp only [Function.comp_def, h]

section firsts
variable {same : α → α → Bool} (h : ∀ a b, same a b = true ↔ a = b)
include h

theorem mem_firsts {x : α} : ∀ {l : List α}, x ∈ firsts same l ↔ x ∈ l
  | [] => Iff.rfl
  | y :: ys => by
    rw [firsts, List.mem_cons, List.mem_cons, List.mem_filter, mem_firsts (l := ys)]
    cases hs : same x y
    · simp
    · simp [(h x y).mp hs]

theorem firsts_nodup : ∀ (l : List α), (firsts same l).Nodup
  | [] => List.nodup_nil
  | y :: ys => List.nodup_cons.mpr
    ⟨fun hm => by simpa [(h y y).mpr rfl] using (List.mem_filter.mp hm).2, (firsts_nodup ys).filter _⟩
end firsts

theorem find?_congr {p q : α → Bool} : ∀ {l : List α}, (∀ x ∈ l, p x = q x) → l.find? p = l.find? q
  | [], _ => rfl
  | x :: xs, h => by
    rw [List.find?_cons, List.find?_cons, h x List.mem_cons_self,
      find?_congr fun y hy => h y (List.mem_cons_of_mem _ hy)]

theorem flatMap_map_of_fixed {β : Type} {g : α → List α} (f : α → β) {l : List α} (hg : ∀ x ∈ l, g x = [x]) :
    (l.flatMap fun x => (g x).map f) = l.map f := by
  induction l with
  | nil => rfl
  | cons x l ih =>
    rw [List.flatMap_cons, hg x List.mem_cons_self, ih fun y hy => hg y (List.mem_cons_of_mem _ hy)]
    rfl

end O2P
