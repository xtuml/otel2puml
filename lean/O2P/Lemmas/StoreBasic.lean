import O2P.Model.Store
import O2P.Lemmas.Lists
/-! The list functions of the `Store` model, and the tie of its constraint flags. -/
namespace O2P.Store

/-- the constraint flags the model was written for are the ones declared in `data_model.py` -/
theorem constraints_tie : Gen.nodesEventIdUnique = true ∧ Gen.assocPairKey = true ∧
    Gen.jobHashesJobIdKey = true := by decide

theorem nodup_iff {α : Type} [DecidableEq α] : ∀ (l : List α), nodup l = true ↔ l.Nodup
  | [] => by simp [nodup]
  | x :: xs => by simp [nodup, nodup_iff xs]

theorem map_filter_nodup {l : List Node} (p : Node → Bool) (h : (l.map (·.id)).Nodup) :
    ((l.filter p).map (·.id)).Nodup := h.sublist (List.filter_sublist.map _)

theorem eq_of_id_eq {l : List Node} (h : (l.map (·.id)).Nodup) {a b : Node} (ha : a ∈ l) (hb : b ∈ l)
    (e : a.id = b.id) : a = b :=
  have pw : l.Pairwise fun a b => a.id ≠ b.id := List.pairwise_map.mp h
  List.Pairwise.forall_of_forall_of_flip (R := fun a b => a.id = b.id → a = b) (fun _ _ _ => rfl)
    (pw.imp fun hne e => absurd e hne) (pw.imp fun hne e => absurd e.symm hne) ha hb e

theorem contains_filter_ids {l : List Node} (h : (l.map (·.id)).Nodup) {p : Node → Bool} {n : Node} (hn : n ∈ l) :
    ((l.filter p).map (·.id)).contains n.id = p n := by
  rw [Bool.eq_iff_iff]
  simp only [List.contains_iff_mem, List.mem_map, List.mem_filter]
  exact ⟨fun ⟨k, ⟨hk, hp⟩, e⟩ => eq_of_id_eq h hk hn e ▸ hp, fun hp => ⟨n, ⟨hn, hp⟩, rfl⟩⟩

theorem firstOcc_eq : firstOcc = firsts fun a b => a.id == b.id := by
  funext l
  induction l with
  | nil => rfl
  | cons n ns ih => rw [firstOcc, firsts, ih]; rfl

theorem firstOcc_sublist (l : List Node) : (firstOcc l).Sublist l :=
  firstOcc_eq ▸ firsts_sublist _ l

theorem firstOcc_ids (l : List Node) : (firstOcc l).map (·.id) = firsts (· == ·) (l.map (·.id)) :=
  firstOcc_eq ▸ map_firsts (·.id) (fun _ _ => rfl) l

theorem mem_firstOcc_ids (l : List Node) (x : String) : x ∈ (firstOcc l).map (·.id) ↔ x ∈ l.map (·.id) :=
  firstOcc_ids l ▸ mem_firsts fun _ _ => beq_iff_eq

theorem firstOcc_nodup (l : List Node) : ((firstOcc l).map (·.id)).Nodup :=
  firstOcc_ids l ▸ firsts_nodup (fun _ _ => beq_iff_eq) _

theorem firstOcc_of_nodup : ∀ {l : List Node}, (l.map (·.id)).Nodup → firstOcc l = l
  | [], _ => rfl
  | n :: ns, h => by
    simp only [List.map_cons, List.nodup_cons, List.mem_map] at h
    rw [firstOcc, firstOcc_of_nodup h.2, List.filter_eq_self.mpr]
    exact fun m hm => bne_iff_ne.mpr fun e => h.1 ⟨m, hm, e⟩

theorem firstOcc_append (a b : List Node) :
    firstOcc (a ++ b) = firstOcc a ++ (firstOcc b).filter (fun n => !(a.map (·.id)).contains n.id) := by
  induction a with
  | nil => exact (List.filter_eq_self.mpr fun _ _ => rfl).symm
  | cons n ns ih =>
    simp only [List.cons_append, firstOcc, ih, List.filter_append, List.filter_filter, List.map_cons,
      List.contains_cons, Bool.not_or, bne]

theorem firstOcc_filter (p : Node → Bool) : ∀ (es : List Node),
    (∀ a ∈ es, ∀ b ∈ es, a.id = b.id → p a = p b) →
    firstOcc (es.filter p) = (firstOcc es).filter p
  | [], _ => rfl
  | e :: es, h => by
    have ih := firstOcc_filter p es fun a ha b hb => h a (List.mem_cons_of_mem _ ha) b (List.mem_cons_of_mem _ hb)
    cases hp : p e with
    -- both sides are `e ::` the rest filtered by `p` and by `·.id != e.id`, in one order and in the other
    | true => simp only [List.filter_cons, hp, ite_true, firstOcc, ih, List.filter_filter, Bool.and_comm]
    | false =>
      simp only [List.filter_cons, hp, firstOcc, Bool.false_eq_true, ite_false, ih, List.filter_filter]
      -- a later span with the id of `e` is dropped on both sides: `p` rejects it as it rejects `e`
      refine List.filter_congr fun x hx => ?_
      by_cases hid : x.id = e.id
      · rw [h x (List.mem_cons_of_mem _ ((firstOcc_sublist es).mem hx)) e List.mem_cons_self hid, hp]; rfl
      · rw [bne_iff_ne.mpr hid, Bool.and_true]

theorem linksOf_append (a b : List Node) : linksOf (a ++ b) = linksOf a ++ linksOf b :=
  List.filterMap_append

theorem linkOf_eq_some {n : Node} {l : Link} : linkOf n = some l ↔ n.parent = some l.1 ∧ n.id = l.2 := by
  unfold linkOf
  cases n.parent <;> simp [Prod.ext_iff]

theorem mem_linksOf {ns : List Node} {l : Link} :
    l ∈ linksOf ns ↔ ∃ n ∈ ns, n.parent = some l.1 ∧ n.id = l.2 := by
  simp only [linksOf, List.mem_filterMap, linkOf_eq_some]

theorem linksOf_snd {ns : List Node} {l : Link} (h : l ∈ linksOf ns) : l.2 ∈ ns.map (·.id) :=
  have ⟨n, hn, _, e⟩ := mem_linksOf.mp h
  List.mem_map.mpr ⟨n, hn, e⟩

theorem linksOf_fresh {ns : List Node} {ids : List String} (h : ∀ n ∈ ns, n.id ∉ ids) :
    ∀ l ∈ linksOf ns, l.2 ∉ ids := fun _ hl =>
  have ⟨n, hn, _, e⟩ := mem_linksOf.mp hl
  e ▸ h n hn

theorem linksOf_nodup {ns : List Node} (h : (ns.map (·.id)).Nodup) : (linksOf ns).Nodup :=
  (List.pairwise_map.mp h).filterMap linkOf fun _ _ hne _ hb _ hb' e =>
    hne (((linkOf_eq_some.mp hb).2.trans (congrArg Prod.snd e)).trans (linkOf_eq_some.mp hb').2.symm)

theorem any_id_beq {ns : List Node} {x : String} : ns.any (·.id == x) = true ↔ x ∈ ns.map (·.id) := by
  simp only [List.any_eq_true, beq_iff_eq, List.mem_map]

theorem mem_dropOrphanLinks {ns : List Node} {ls : List Link} {l : Link} :
    l ∈ dropOrphanLinks ns ls ↔ l ∈ ls ∧ l.2 ∈ ns.map (·.id) := by
  rw [dropOrphanLinks, List.mem_filter, any_id_beq]

theorem dropOrphanLinks_append (ns : List Node) (a b : List Link) :
    dropOrphanLinks ns (a ++ b) = dropOrphanLinks ns a ++ dropOrphanLinks ns b := List.filter_append ..

theorem dropOrphanLinks_eq_self {ns : List Node} {ls : List Link} (h : ∀ l ∈ ls, l.2 ∈ ns.map (·.id)) :
    dropOrphanLinks ns ls = ls :=
  List.filter_eq_self.mpr fun l hl => any_id_beq.mpr (h l hl)

theorem dropOrphanLinks_eq_nil {ns : List Node} {ls : List Link} (h : ∀ l ∈ ls, l.2 ∉ ns.map (·.id)) :
    dropOrphanLinks ns ls = [] :=
  List.filter_eq_nil_iff.mpr fun l hl => mt any_id_beq.mp (h l hl)

theorem dropOrphanLinks_twice {ns ms : List Node} (h : ms ⊆ ns) (ls : List Link) :
    dropOrphanLinks ms (dropOrphanLinks ns ls) = dropOrphanLinks ms ls := by
  unfold dropOrphanLinks
  rw [List.filter_filter]
  refine List.filter_congr fun l _ => ?_
  rw [Bool.and_eq_left_iff_imp]
  simp only [List.any_eq_true]
  exact fun ⟨n, hn, e⟩ => ⟨n, h hn, e⟩

end O2P.Store
