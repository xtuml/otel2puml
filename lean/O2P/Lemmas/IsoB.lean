import O2P.Lemmas.DiagramSem
import O2P.Lemmas.Lists
/-!
For jobs with distinct ids the search `isoB` decides isomorphism (`Iso`): a one-to-one map of the events that keeps the
types and sends the predecessors of an event to those of its image; completeness needs the first job in topological
order.  Predecessor lists are compared with the model's `sameSet`, as sets of equal size: equality as multisets when they
have no repetition.  `Match` is what `matchNodes` computes, free of fuel and `Bool`.
-/
namespace O2P.Diagram

/-- the partial bijection as a look-up -/
def lookup (m : List (Nat × Nat)) (p : Nat) : Option Nat := (m.find? (·.1 == p)).map (·.2)

theorem lookup_cons_same {m : List (Nat × Nat)} {p q : Nat} : lookup ((p, q) :: m) p = some q := by
  simp [lookup]

theorem lookup_cons_other {m : List (Nat × Nat)} {p q p' : Nat} (h : p' ≠ p) :
    lookup ((p, q) :: m) p' = lookup m p' := by
  have : (p == p') = false := by simpa using fun e => h e.symm
  simp [lookup, this]

theorem sameSet_length {a b : List Nat} (h : sameSet a b = true) : a.length = b.length := by
  simp only [sameSet, Bool.and_eq_true, beq_iff_eq] at h
  exact h.2

/-- what `matchNodes` searches for -/
inductive Match : List JNode → List JNode → List (Nat × Nat) → Prop
  | nil {m} : Match [] [] m
  | cons {x xs bs m} (y : JNode) (img : List Nat) : y ∈ bs → y.typ = x.typ → y.prev.length = x.prev.length →
      x.prev.mapM (lookup m) = some img → sameSet img y.prev = true →
      Match xs (bs.filter (·.id != y.id)) ((x.id, y.id) :: m) → Match (x :: xs) bs m

theorem matchNodes_iff : ∀ (fuel : Nat) (xs bs : List JNode) (m : List (Nat × Nat)), xs.length < fuel →
    (matchNodes fuel xs bs m = true ↔ Match xs bs m)
  | 0, _, _, _, h => absurd h (Nat.not_lt_zero _)
  | fuel + 1, [], bs, m, _ => by
    simp only [matchNodes, List.isEmpty_iff]
    exact ⟨fun h => h ▸ Match.nil, fun h => by cases h; rfl⟩
  | fuel + 1, x :: xs, bs, m, h => by
    have ih := fun bs' m' => matchNodes_iff fuel xs bs' m' (Nat.lt_of_succ_lt_succ h)
    simp only [matchNodes, List.any_eq_true, Bool.and_eq_true, beq_iff_eq]
    constructor
    · rintro ⟨y, hy, ⟨⟨⟨ht, hl⟩, himg⟩, hrec⟩⟩
      split at himg
      · rename_i img hm
        exact Match.cons y img hy ht hl hm himg ((ih _ _).mp hrec)
      · cases himg
    · intro hM
      cases hM with
      | cons y img hy ht hl hm hs hrec =>
        have hm' : x.prev.mapM (fun p => (m.find? (·.1 == p)).map (·.2)) = some img := hm
        exact ⟨y, hy, ⟨⟨⟨ht, hl⟩, by rw [hm']; exact hs⟩, (ih _ _).mpr hrec⟩⟩

/-- `f` maps the events of `a` one-to-one onto the events of `b`, keeping types and predecessor sets -/
structure IsoVia (f : Nat → Nat) (a b : Job) : Prop where
  ids : (a.map fun x => f x.id).Perm (b.map (·.id))
  node : ∀ x ∈ a, ∃ y ∈ b, y.id = f x.id ∧ y.typ = x.typ ∧ sameSet (x.prev.map f) y.prev = true

def Iso (a b : Job) : Prop := ∃ f, IsoVia f a b

theorem id_ne_head {x w : JNode} {xs : List JNode} (h : ((x :: xs).map (·.id)).Nodup) (hw : w ∈ xs) : w.id ≠ x.id :=
  fun e => (List.nodup_cons.mp h).1 (List.mem_map.mpr ⟨w, hw, e⟩)

theorem filter_id_ne_head {x : JNode} {xs : List JNode} (h : ((x :: xs).map (·.id)).Nodup) :
    (x :: xs).filter (·.id != x.id) = xs := by
  rw [List.filter_cons_of_neg (by simp)]
  exact List.filter_eq_self.mpr fun w hw => by simpa using id_ne_head h hw

open List in
theorem perm_filter_ne {bs : List JNode} (hb : (bs.map (·.id)).Nodup) {y : JNode} (hy : y ∈ bs) :
    bs ~ y :: bs.filter (·.id != y.id) := by
  induction bs with
  | nil => cases hy
  | cons z zs ih =>
    rcases List.mem_cons.mp hy with rfl | hy'
    · rw [filter_id_ne_head hb]
    · rw [List.filter_cons_of_pos (by simpa using (id_ne_head hb hy').symm)]
      exact ((ih (List.nodup_cons.mp hb).2 hy').cons z).trans (Perm.swap y z _)

theorem nodup_filter_ids {bs : List JNode} (hb : (bs.map (·.id)).Nodup) {p : JNode → Bool} :
    ((bs.filter p).map (·.id)).Nodup :=
  hb.sublist (List.filter_sublist.map _)

theorem isoVia_nil {f : Nat → Nat} {bs : List JNode} : IsoVia f [] bs ↔ bs = [] :=
  ⟨fun h => List.map_eq_nil_iff.mp h.ids.symm.eq_nil, fun e => e.symm ▸ ⟨.refl _, nofun⟩⟩

open List in
/-- an isomorphism sends the first event to some `y` and the others, isomorphically, to what is left without `y` -/
theorem isoVia_cons {f : Nat → Nat} {x : JNode} {xs bs : List JNode} (hb : (bs.map (·.id)).Nodup) :
    IsoVia f (x :: xs) bs ↔ ∃ y ∈ bs, (y.id = f x.id ∧ y.typ = x.typ ∧ sameSet (x.prev.map f) y.prev = true) ∧
      IsoVia f xs (bs.filter (·.id != y.id)) := by
  constructor
  · intro h
    obtain ⟨y, hy, hyx⟩ := h.node x List.mem_cons_self
    have hnd : (f x.id :: xs.map fun z => f z.id).Nodup := h.ids.nodup_iff.mpr hb
    refine ⟨y, hy, hyx, ?_, fun x' hx' => ?_⟩
    · have := h.ids.trans ((perm_filter_ne hb hy).map JNode.id)
      rw [List.map_cons, List.map_cons, ← hyx.1] at this
      exact (List.perm_cons _).mp this
    · obtain ⟨y', hy', hyx'⟩ := h.node x' (List.mem_cons_of_mem _ hx')
      have : y'.id ≠ y.id := by
        rw [hyx'.1, hyx.1]
        exact fun e => (List.nodup_cons.mp hnd).1 (List.mem_map.mpr ⟨x', hx', e⟩)
      exact ⟨y', List.mem_filter.mpr ⟨hy', by simpa using this⟩, hyx'⟩
  · rintro ⟨y, hy, hyx, h⟩
    refine ⟨?_, fun x' hx' => ?_⟩
    · rw [List.map_cons, ← hyx.1]
      exact (h.ids.cons y.id).trans ((perm_filter_ne hb hy).map JNode.id).symm
    · rcases List.mem_cons.mp hx' with rfl | hx'
      · exact ⟨y, hy, hyx⟩
      · obtain ⟨y', hy', hyx'⟩ := h.node x' hx'
        exact ⟨y', (List.mem_filter.mp hy').1, hyx'⟩

/-- a match is an isomorphism -/
theorem match_sound : ∀ {xs bs : List JNode} {m : List (Nat × Nat)}, Match xs bs m →
    (xs.map (·.id)).Nodup → (∀ x ∈ xs, lookup m x.id = none) → (bs.map (·.id)).Nodup →
    ∃ f, (∀ p q, lookup m p = some q → f p = q) ∧ IsoVia f xs bs := by
  intro xs bs m h
  induction h with
  | @nil m =>
    intro _ _ _
    exact ⟨fun p => (lookup m p).getD 0, fun p q h => by simp [h], isoVia_nil.mpr rfl⟩
  | @cons x xs bs m y img hy ht hl hm hs _ ih =>
    intro hnd hfresh hb
    have hfresh' : ∀ x' ∈ xs, lookup ((x.id, y.id) :: m) x'.id = none := by
      intro x' hx'
      rw [lookup_cons_other (id_ne_head hnd hx')]
      exact hfresh x' (List.mem_cons_of_mem _ hx')
    obtain ⟨f, hf, hiso⟩ := ih (List.nodup_cons.mp hnd).2 hfresh' (nodup_filter_ids hb)
    have hfm : ∀ p q, lookup m p = some q → f p = q := by
      intro p q hpq
      have hne : p ≠ x.id := by
        rintro rfl
        rw [hfresh x List.mem_cons_self] at hpq
        cases hpq
      exact hf p q (by rw [lookup_cons_other hne]; exact hpq)
    refine ⟨f, hfm, (isoVia_cons hb).mpr ⟨y, hy, ⟨?_, ht, ?_⟩, hiso⟩⟩
    · exact (hf x.id y.id lookup_cons_same).symm
    · rw [← eq_map_of_mapM_eq_some hfm hm]
      exact hs

/-- the job is listed so that every predecessor is already known when its event comes up -/
def OrderedFrom (known : Nat → Prop) : List JNode → Prop
  | [] => True
  | x :: xs => (∀ p ∈ x.prev, known p) ∧ OrderedFrom (fun p => known p ∨ p = x.id) xs

theorem orderedFrom_mono {k k' : Nat → Prop} (h : ∀ p, k p → k' p) : ∀ {xs : List JNode},
    OrderedFrom k xs → OrderedFrom k' xs
  | [], _ => trivial
  | _ :: _, ⟨h1, h2⟩ => ⟨fun p hp => h p (h1 p hp), orderedFrom_mono (fun p hp => hp.imp_left (h p)) h2⟩

/-- an isomorphism out of an ordered job is found by the search -/
theorem match_complete (f : Nat → Nat) : ∀ (xs bs : List JNode) (m : List (Nat × Nat)),
    IsoVia f xs bs → (bs.map (·.id)).Nodup → OrderedFrom (fun p => lookup m p = some (f p)) xs → Match xs bs m
  | [], bs, m, hiso, _, _ => isoVia_nil.mp hiso ▸ Match.nil
  | x :: xs, bs, m, hiso, hb, ⟨hknown, hord⟩ => by
    obtain ⟨y, hy, ⟨hyid, hyt, hys⟩, hiso'⟩ := (isoVia_cons hb).mp hiso
    have hord' : OrderedFrom (fun p => lookup ((x.id, y.id) :: m) p = some (f p)) xs := by
      refine orderedFrom_mono (fun p hp => ?_) hord
      by_cases e : p = x.id
      · rw [e, lookup_cons_same, hyid]
      · rw [lookup_cons_other e]; exact hp.resolve_right e
    exact Match.cons y (x.prev.map f) hy hyt
      ((sameSet_length hys).symm.trans (List.length_map f))
      (mapM_eq_some_map hknown) hys
      (match_complete f xs _ _ hiso' (nodup_filter_ids hb) hord')

theorem topo_ordered : ∀ (fuel : Nat) (a : List JNode) (done : List Nat) (acc : List JNode),
    a.length < fuel → (a.map (·.id)).Nodup → OrderedFrom (fun p => p ∈ done) a →
    topo fuel a done acc = some (acc.reverse ++ a)
  | 0, _, _, _, h, _, _ => absurd h (Nat.not_lt_zero _)
  | fuel + 1, [], done, acc, _, _, _ => by simp [topo]
  | fuel + 1, x :: xs, done, acc, h, hnd, ⟨hk, hord⟩ => by
    have hfind : (x :: xs).find? (fun n => n.prev.all done.contains) = some x :=
      List.find?_cons_of_pos (List.all_eq_true.mpr fun p hp => by simpa using hk p hp)
    have hord' : OrderedFrom (fun p => p ∈ x.id :: done) xs :=
      orderedFrom_mono (fun p hp => List.mem_cons.mpr hp.symm) hord
    unfold topo
    rw [hfind]
    simp only
    rw [filter_id_ne_head hnd, topo_ordered fuel xs (x.id :: done) (x :: acc) (Nat.lt_of_succ_lt_succ h)
      (List.nodup_cons.mp hnd).2 hord']
    simp

open List in
theorem topo_perm : ∀ (fuel : Nat) (pending : List JNode) (done : List Nat) (acc r : List JNode),
    (pending.map (·.id)).Nodup → topo fuel pending done acc = some r → r ~ acc.reverse ++ pending
  | 0, _, _, _, _, _, h => by simp [topo] at h
  | fuel + 1, [], done, acc, r, _, h => by
    simp only [topo, Option.some.injEq] at h
    subst h; simp
  | fuel + 1, x :: xs, done, acc, r, hnd, h => by
    unfold topo at h
    split at h
    · cases h
    · rename_i n hf
      refine (topo_perm fuel _ (n.id :: done) (n :: acc) r (nodup_filter_ids hnd) h).trans ?_
      simp only [List.reverse_cons, List.append_assoc, List.singleton_append]
      exact (perm_filter_ne hnd (List.mem_of_find?_eq_some hf)).symm.append_left _

theorem IsoVia.of_perm {f : Nat → Nat} {a a' b : Job} (h : IsoVia f a b) (p : a'.Perm a) : IsoVia f a' b :=
  ⟨(p.map _).trans h.ids, fun x hx => h.node x (p.subset hx)⟩

theorem isoB_sound (a b : Job) (ha : (a.map (·.id)).Nodup) (hb : (b.map (·.id)).Nodup)
    (h : isoB a b = true) : Iso a b := by
  simp only [isoB, Bool.and_eq_true] at h
  split at h
  · rename_i ta ht
    have hp : ta.Perm a := by simpa using topo_perm _ a [] [] ta ha ht
    have hM := (matchNodes_iff _ ta b [] (by rw [hp.length_eq]; exact Nat.lt_succ_self _)).mp h.2
    obtain ⟨f, _, hiso⟩ := match_sound hM ((hp.map _).nodup_iff.mpr ha) (fun _ _ => rfl) hb
    exact ⟨f, hiso.of_perm hp.symm⟩
  · cases h.2

/-- `a` has to be listed in topological order; the jobs of `runs` are (`runs_ordered`) -/
theorem isoB_complete (a b : Job) (ha : (a.map (·.id)).Nodup) (hb : (b.map (·.id)).Nodup)
    (hord : OrderedFrom (fun _ => False) a) (h : Iso a b) : isoB a b = true := by
  obtain ⟨f, hiso⟩ := h
  have hlen : a.length = b.length := by simpa using hiso.ids.length_eq
  have ht : topo (a.length + 1) a [] [] = some a := by
    simpa using topo_ordered (a.length + 1) a [] [] (Nat.lt_succ_self _) ha (orderedFrom_mono (fun _ => False.elim) hord)
  rw [isoB, ht, beq_iff_eq.mpr hlen]
  exact (matchNodes_iff _ a b [] (Nat.lt_succ_self _)).mpr
    (match_complete f a b [] hiso hb (orderedFrom_mono (fun _ => False.elim) hord))

theorem ordered_of_range : ∀ (l : List JNode) (s : Nat), l.map (·.id) = List.range' s l.length →
    (∀ n ∈ l, ∀ p ∈ n.prev, p < n.id) → OrderedFrom (fun p => p < s) l
  | [], _, _, _ => trivial
  | x :: xs, s, hid, hp => by
    simp only [List.map_cons, List.length_cons, List.range'_succ, List.cons.injEq] at hid
    refine ⟨fun p hpp => hid.1 ▸ hp x List.mem_cons_self p hpp, ?_⟩
    have := ordered_of_range xs (s + 1) hid.2 (fun n hn => hp n (List.mem_cons_of_mem _ hn))
    refine orderedFrom_mono (fun p h => ?_) this
    rw [hid.1]
    omega

theorem runs_ordered (k : Nat) (d : Blk) (j : Job) (hj : j ∈ runs k d) :
    OrderedFrom (fun _ => False) j ∧ (j.map (·.id)).Nodup := by
  obtain ⟨h1, h2⟩ := runs_wellformed k d j hj
  refine ⟨?_, h1 ▸ List.nodup_range⟩
  exact orderedFrom_mono (fun p h => absurd h (Nat.not_lt_zero p))
    (ordered_of_range j 0 (by rw [h1, List.range_eq_range']) h2)

theorem insertStr_eq : insertStr = orderedInsert fun y x => !decide (x < y) := by
  funext x l
  induction l with
  | nil => rfl
  | cons y ys ih => by_cases h : x < y <;> simp [insertStr, orderedInsert, h, ih]

open List in
theorem typeKey_of_perm {a b : Job} (h : a.map (·.typ) ~ b.map (·.typ)) : typeKey a = typeKey b := by
  rw [typeKey, typeKey, insertStr_eq]
  -- `x ≤ y` on `String` unfolds to `¬ y < x`: that is why `String.lt_asymm`, given `b < a`, proves the `b ≤ a` asked for
  exact insertionSort_eq_of_perm (le := (· ≤ ·)) (fun a b h => String.not_lt.mp (by simpa using h))
    (fun a b h => String.lt_asymm (by simpa using h)) (fun _ _ _ => String.le_trans)
    (fun _ _ => String.le_antisymm) h

open List in
theorem types_perm_of_iso {f : Nat → Nat} : ∀ {a b : Job}, (b.map (·.id)).Nodup → IsoVia f a b →
    (a.map (·.typ)) ~ (b.map (·.typ))
  | [], b, _, h => by rw [isoVia_nil.mp h]
  | x :: xs, b, hb, h => by
    obtain ⟨y, hy, ⟨_, hyt, _⟩, h'⟩ := (isoVia_cons hb).mp h
    rw [List.map_cons, ← hyt]
    exact ((types_perm_of_iso (nodup_filter_ids hb) h').cons y.typ).trans ((perm_filter_ne hb hy).map JNode.typ).symm

theorem accepts_iff (k : Nat) (d : Blk) (j : Job) :
    accepts k d j = true ↔ ∃ r ∈ runs k d, r.length = j.length ∧ typeKey r = typeKey j ∧ isoB r j = true := by
  simp only [accepts, List.any_eq_true, Bool.and_eq_true, beq_iff_eq, and_assoc]

/-- for a job with distinct ids, a rejection is never the search's fault, an acceptance never spurious -/
theorem accepts_iff_iso (k : Nat) (d : Blk) (j : Job) (hj : (j.map (·.id)).Nodup) :
    accepts k d j = true ↔ ∃ r ∈ runs k d, Iso r j := by
  rw [accepts_iff]
  constructor
  · rintro ⟨r, hr, _, _, hi⟩
    exact ⟨r, hr, isoB_sound r j (runs_ordered k d r hr).2 hj hi⟩
  · rintro ⟨r, hr, f, hf⟩
    obtain ⟨ho, hn⟩ := runs_ordered k d r hr
    exact ⟨r, hr, by simpa using hf.ids.length_eq, typeKey_of_perm (types_perm_of_iso hj hf),
      isoB_complete r j hn hj ho ⟨f, hf⟩⟩

end O2P.Diagram
