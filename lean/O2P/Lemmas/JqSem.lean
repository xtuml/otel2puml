/-
The emitted query, bottom up: paths and loops → leaves (`eval_leafExpr`) → alternatives and parts → the two joins
(`eval_joined`) → the fields (`eval_emitFields`) → the loops (`eval_emitLoops`); `C13.compile_correct` composes the
last two.
`.var i` reads level `i` of the environment: level 0 is the document, then one level per loop (the slots of `bindings`);
a field emitted at level `lvl` binds its `k` leaves from there on and its joined value, noted in `outs`, at `lvl + k`.
-/
import O2P.Model.JqCore
import O2P.Lemmas.Lists
namespace O2P.Jq

@[simp] theorem Res.ok_err (l : List Json) : (Res.ok l).err = false := rfl
@[simp] theorem Res.ok_outs (l : List Json) : (Res.ok l).outs = l := rfl
@[simp] theorem Res.fail_err : Res.fail.err = true := rfl
@[simp] theorem Res.fail_outs : Res.fail.outs = [] := rfl

def wfFields (n : Nat) (fields : List (String × Spec)) : Prop :=
  ∀ f ∈ fields, f.2.parts ≠ [] ∧ ∀ p ∈ f.2.parts, p ≠ [] ∧ ∀ l ∈ p, l.slot' < n

theorem wfFieldsB_iff (n : Nat) (fields : List (String × Spec)) : wfFieldsB n fields = true ↔ wfFields n fields := by
  simp only [wfFieldsB, wfFields, List.all_eq_true, Bool.and_eq_true, Bool.not_eq_true', List.isEmpty_eq_false_iff,
    decide_eq_true_eq]

theorem wfOrder_cons {n : Nat} {d : Nat × List String} {rest : List (Nat × List String)} :
    wfOrder n (d :: rest) = true ↔ d.1 < n ∧ wfOrder (n + 1) rest = true := by
  rw [wfOrder, Bool.and_eq_true, decide_eq_true_eq]

/-- the result of an expression with at most one output: `none` is the error -/
def Res.ofOption : Option Json → Res
  | some v => .ok [v]
  | none => .fail

theorem bindOuts_ok (g : Json → List Json) : ∀ (l : List Json),
    bindOuts l (fun x => .ok (g x)) = .ok (l.flatMap g)
  | [] => rfl
  | x :: xs => by rw [bindOuts, bindOuts_ok g xs]; rfl

theorem bindRes_ok (l : List Json) (f : Json → Res) : bindRes (.ok l) f = bindOuts l f := by
  show (if (bindOuts l f).err then bindOuts l f else ⟨(bindOuts l f).outs, false⟩) = bindOuts l f
  generalize bindOuts l f = b
  rcases b with ⟨o, _ | _⟩ <;> rfl

theorem bindRes_single (v : Json) (f : Json → Res) : bindRes (.ok [v]) f = f v := by
  rw [bindRes_ok]
  show (if (f v).err then ⟨(f v).outs, true⟩ else ⟨(f v).outs ++ [], false⟩) = f v
  generalize f v = b
  rcases b with ⟨o, _ | _⟩
  · exact congrArg (Res.mk · false) (List.append_nil o)
  · rfl

theorem bindRes_single₂ {r s : Res} {x y : Json} {g : Json → Json → Res} (hr : r = .ok [x]) (hs : s = .ok [y]) :
    (bindRes r fun x => bindRes s fun y => g x y) = g x y := by
  rw [hr, hs, bindRes_single, bindRes_single]

theorem bindRes_ofOption (o : Option Json) (f : Json → Res) :
    bindRes (.ofOption o) f = match o with
      | some v => f v
      | none => .fail := by
  cases o with
  | none => rfl
  | some v => exact bindRes_single v f

theorem bindOuts_filter (keep : Json → Bool) : ∀ (l : List Json),
    bindOuts l (fun e => .ok (if keep e then [e] else [])) = .ok (l.filter keep)
  | [] => rfl
  | x :: xs => by rw [bindOuts, bindOuts_filter keep xs, List.filter_cons]; cases keep x <;> rfl

theorem bindOuts_mapM {γ : Type} (g : Json → Option γ) (w : γ → Json) : ∀ (l : List Json),
    (∀ ps, l.mapM g = some ps → bindOuts l (fun e => .ofOption ((g e).map w)) = .ok (ps.map w)) ∧
      (l.mapM g = none → (bindOuts l fun e => .ofOption ((g e).map w)).err = true)
  | [] => ⟨fun _ h => Option.some.inj h ▸ rfl, nofun⟩
  | x :: xs => by
    obtain ⟨ih1, ih2⟩ := bindOuts_mapM g w xs
    rw [List.mapM_cons, bindOuts]
    cases g x with
    | none => exact ⟨nofun, fun _ => rfl⟩
    | some p =>
      cases hm : xs.mapM g with
      | none => exact ⟨nofun, fun _ => ih2 hm⟩
      | some ps => exact ⟨fun _ h => by rw [← Option.some.inj h, ih1 ps hm]; rfl, nofun⟩

/-! ### the equations of `eval` (`add`, `join`, `flatten`: on an array; `objVars`: with its slots bound) -/

variable {inp : Json}
-- up to `end eval` every statement is about one environment `env`; after it they relate several
section eval
variable {env : List Json}

theorem eval_id : eval .id env inp = .ok [inp] := rfl

theorem eval_var (i : Nat) : eval (.var i) env inp = .ofOption env[i]? := rfl

theorem eval_lit (j : Json) : eval (.lit j) env inp = .ok [j] := rfl

theorem eval_field (e : Expr) (k : String) :
    eval (.field e k) env inp = bindRes (eval e env inp) fun v => .ofOption (field k v) := rfl

theorem eval_iter (e : Expr) :
    eval (.iter e) env inp = bindRes (eval e env inp) fun v => match iter v with
      | some l => .ok l
      | none => .fail := rfl

theorem eval_pipe (a b : Expr) : eval (.pipe a b) env inp = bindRes (eval a env inp) fun v => eval b env v := rfl

theorem eval_comma (a b : Expr) :
    eval (.comma a b) env inp = if (eval a env inp).err then eval a env inp
      else ⟨(eval a env inp).outs ++ (eval b env inp).outs, (eval b env inp).err⟩ := rfl

theorem eval_tryCatch (a : Expr) (j : Json) :
    eval (.tryCatch a j) env inp =
      if (eval a env inp).err then .ok ((eval a env inp).outs ++ [j]) else eval a env inp := rfl

theorem eval_tryE (a : Expr) : eval (.tryE a) env inp = .ok (eval a env inp).outs := rfl

theorem eval_arr (e : Expr) :
    eval (.arr e) env inp = if (eval e env inp).err then .fail else .ok [.arr (eval e env inp).outs] := rfl

theorem eval_objDyn (k v : Expr) :
    eval (.objDyn k v) env inp = bindRes (eval k env inp) fun kk => match kk with
      | .str s => bindRes (eval v env inp) fun vv => .ok [.obj [(s, vv)]]
      | _ => .fail := rfl

theorem eval_objVars (kvs : List (String × Nat)) (h : ∀ p ∈ kvs, p.2 < env.length) :
    eval (.objVars kvs) env inp = .ok [.obj (kvs.map fun p => (p.1, env.getD p.2 .null))] :=
  congrArg (fun o : Option Record => match o with | some o => Res.ok [.obj o] | none => .fail)
    (mapM_eq_some_map fun p hp => by rw [List.getD_eq_getElem?_getD, List.getElem?_eq_getElem (h p hp)]; rfl)

theorem eval_select (c : Expr) :
    eval (.select c) env inp = bindRes (eval c env inp) fun b => if truthy b then .ok [inp] else .ok [] := rfl

theorem eval_add (l : List Json) : eval .add env (.arr l) = .ofOption (addAll l) := rfl

theorem eval_tostring : eval .tostring env inp = .ok [.str (tostring inp)] := rfl

theorem eval_join (sep : String) (l : List Json) :
    eval (.join sep) env (.arr l) = match l.mapM strOf? with
      | some ss => .ok [.str (sep.intercalate ss)]
      | none => .fail := rfl

theorem eval_flatten (l : List Json) : eval .flatten env (.arr l) = .ok [.arr (flattenL l)] := rfl

theorem eval_anyF (f : Expr) :
    eval (.anyF f) env inp = match (iter inp).bind (verdicts (eval f env)) with
      | some vs => .ok [.bool (vs.any (·))]
      | none => .fail := rfl

theorem eval_allF (f : Expr) :
    eval (.allF f) env inp = match (iter inp).bind (verdicts (eval f env)) with
      | some vs => .ok [.bool (vs.all (·))]
      | none => .fail := rfl

theorem eval_eq (a b : Expr) :
    eval (.eq a b) env inp =
      bindRes (eval a env inp) fun x => bindRes (eval b env inp) fun y => .ok [.bool (x.beq y)] := rfl

theorem eval_neq (a b : Expr) :
    eval (.neq a b) env inp =
      bindRes (eval a env inp) fun x => bindRes (eval b env inp) fun y => .ok [.bool (!x.beq y)] := rfl

theorem eval_and (a b : Expr) :
    eval (.and a b) env inp = bindRes (eval a env inp) fun x =>
      if truthy x then bindRes (eval b env inp) fun y => .ok [.bool (truthy y)] else .ok [.bool false] := rfl

theorem eval_ite (c t e : Expr) :
    eval (.ite c t e) env inp =
      bindRes (eval c env inp) fun b => if truthy b then eval t env inp else eval e env inp := rfl

theorem eval_alt (a b : Expr) :
    eval (.alt a b) env inp =
      if ((eval a env inp).outs.filter truthy).isEmpty then eval b env inp
      else .ok ((eval a env inp).outs.filter truthy) := rfl

theorem eval_plus (a b : Expr) :
    eval (.plus a b) env inp =
      bindRes (eval a env inp) fun x => bindRes (eval b env inp) fun y => .ofOption (plusJ x y) := rfl

theorem eval_bind (e body : Expr) :
    eval (.bind e body) env inp = bindRes (eval e env inp) fun v => eval body (env ++ [v]) inp := rfl

/-! #### operands whose result is known: for `iter` and `tryCatch`, one output or the error (`.ofOption o`) -/

theorem eval_iter_of {e : Expr} {o : Option Json} (h : eval e env inp = .ofOption o) :
    eval (.iter e) env inp = match o.bind iter with
      | some l => .ok l
      | none => .fail := by
  rw [eval_iter, h, bindRes_ofOption]; cases o <;> rfl

theorem eval_tryCatch_of {e : Expr} {o : Option Json} (j : Json) (h : eval e env inp = .ofOption o) :
    eval (.tryCatch e j) env inp = .ok [o.getD j] := by
  rw [eval_tryCatch, h]; cases o <;> rfl

/-! #### for the other operators `_of` means one output, except under `arr`; `_of_ok` any outputs, `_of_fail` the error -/

section known
variable {a b c : Expr} {x y : Json}

theorem eval_pipe_of (ha : eval a env inp = .ok [x]) : eval (.pipe a b) env inp = eval b env x := by
  rw [eval_pipe, ha, bindRes_single]

theorem eval_pipe_of_ok {xs : List Json} {f : Json → Res} (ha : eval a env inp = .ok xs)
    (hb : ∀ x, eval b env x = f x) : eval (.pipe a b) env inp = bindOuts xs f := by
  rw [eval_pipe, ha, bindRes_ok]; exact congrArg (bindOuts xs) (funext hb)

theorem eval_pipe_of_fail (ha : eval a env inp = .fail) : eval (.pipe a b) env inp = .fail := by
  rw [eval_pipe, ha]; rfl

theorem eval_bind_of (ha : eval a env inp = .ok [x]) : eval (.bind a b) env inp = eval b (env ++ [x]) inp := by
  rw [eval_bind, ha, bindRes_single]

theorem eval_arr_of {xs : List Json} (ha : eval a env inp = .ok xs) : eval (.arr a) env inp = .ok [.arr xs] := by
  rw [eval_arr, ha]; rfl

theorem eval_alt_of (ha : eval a env inp = .ok [x]) :
    eval (.alt a b) env inp = if truthy x then .ok [x] else eval b env inp := by
  rw [eval_alt, ha, Res.ok_outs, List.filter_cons, List.filter_nil]; cases truthy x <;> rfl

theorem eval_ite_of {t e : Expr} (hc : eval c env inp = .ok [x]) :
    eval (.ite c t e) env inp = if truthy x then eval t env inp else eval e env inp := by
  rw [eval_ite, hc, bindRes_single]

theorem eval_and_of (ha : eval a env inp = .ok [x]) (hb : eval b env inp = .ok [y]) :
    eval (.and a b) env inp = .ok [.bool (truthy x && truthy y)] := by
  rw [eval_and, ha, hb, bindRes_single, bindRes_single]
  cases truthy x <;> rfl

end known

/-! ### paths and loops -/

theorem eval_pathExpr : ∀ (p : List String) {base : Expr} {o : Option Json}, eval base env inp = .ofOption o →
    eval (pathExpr base p) env inp = .ofOption (o.bind (path p))
  | [], _, o, h => by cases o <;> exact h
  | k :: ks, base, o, h => by
    have hk : eval (.field base k) env inp = .ofOption (o.bind (field k)) := by
      rw [eval_field, h, bindRes_ofOption]; cases o <;> rfl
    rw [pathExpr, eval_pathExpr ks hk]; cases o <;> rfl

theorem eval_path_var {s : Nat} (p : List String) (h : s < env.length) :
    eval (pathExpr (.var s) p) env inp = .ofOption (path p (env.getD s .null)) :=
  eval_pathExpr (o := some (env.getD s .null)) p
    (by rw [eval_var, List.getD_eq_getElem?_getD, List.getElem?_eq_getElem h]; rfl)

theorem eval_path_id (p : List String) : eval (pathExpr .id p) env inp = .ofOption (path p inp) :=
  eval_pathExpr (o := some inp) p rfl

theorem eval_loopExpr {s : Nat} (chunk : List String) (h : s < env.length) :
    eval (loopExpr s chunk) env inp = .ok (items chunk (env.getD s .null)) := by
  rw [loopExpr, eval_tryCatch, eval_iter_of (eval_path_var chunk h), items]
  cases (path chunk (env.getD s .null)).bind iter <;> rfl

/-! ### the key/value lookup -/

/-- the elements `select(try .K)` keeps -/
def keepElem (k : List String) (e : Json) : Bool :=
  match path k e with
  | some x => truthy x
  | none => false

/-- the pair `{(.K): .V}` builds from an element -/
def pairOf (k vp : List String) (e : Json) : Option (String × Json) :=
  match path k e, path vp e with
  | some (.str s), some v => some (s, v)
  | _, _ => none

theorem eval_select_try (k : List String) (e : Json) :
    eval (.select (.tryE (pathExpr .id k))) env e = .ok (if keepElem k e then [e] else []) := by
  rw [eval_select, eval_tryE, eval_path_id, keepElem]
  cases path k e with
  | none => rfl
  | some x =>
    show _ = Res.ok (if truthy x then [e] else [])
    rw [Res.ofOption, Res.ok_outs, bindRes_single]; cases truthy x <;> rfl

theorem eval_objDyn_paths (k vp : List String) (e : Json) :
    eval (.objDyn (pathExpr .id k) (pathExpr .id vp)) env e = .ofOption ((pairOf k vp e).map fun p => .obj [p]) := by
  rw [eval_objDyn, eval_path_id, eval_path_id, bindRes_ofOption, pairOf]
  cases path k e with
  | none => rfl
  | some x => cases x <;> cases path vp e <;> first | rfl | exact bindRes_single _ _

/-- `+` on objects is a merge in which the right operand wins -/
theorem find?_key_merge (a b : List (String × Json)) (k : String) :
    ((a.filter fun p => !(b.any fun q => q.1 == p.1)) ++ b).find? (·.1 == k) =
      (b.find? (·.1 == k)).or (a.find? (·.1 == k)) := by
  -- a pair of `a` with key `k` survives the filter iff `b` has no pair with key `k`
  have hP : ∀ p ∈ a, decide ((!(b.any fun q => q.1 == p.1)) = true ∧ (p.1 == k) = true) =
      (!(b.find? (·.1 == k)).isSome && p.1 == k) := fun p _ => by
    cases hp : p.1 == k with
    | false => rw [Bool.and_false]; exact decide_eq_false fun h => Bool.false_ne_true h.2
    | true => rw [eq_of_beq hp, List.isSome_find?, Bool.and_true]; simp only [and_true, Bool.decide_eq_true]
  rw [List.find?_append, List.find?_filter, find?_congr hP]
  cases b.find? (·.1 == k) with
  | none => exact Option.or_none
  | some q => exact congrArg (Option.or · _) (List.find?_eq_none.mpr fun _ _ h => Bool.false_ne_true h)

theorem plusJ_obj (a b : List (String × Json)) :
    plusJ (.obj a) (.obj b) = some (.obj ((a.filter fun p => !(b.any fun q => q.1 == p.1)) ++ b)) := rfl

/-- jq's `add` starts from `null`, and `null + x` is `x`: a non-empty sum starts from its first element -/
theorem addAll_cons (x : Json) (l : List Json) :
    addAll (x :: l) = l.foldl (fun acc x => acc.bind fun v => plusJ v x) (some x) := rfl

/-- `add` over one-pair objects: the value of a key is that of its last occurrence -/
theorem addAll_objs (k : String) : ∀ (ps a : List (String × Json)),
    ∃ o, (ps.map fun p => Json.obj [p]).foldl (fun acc x => acc.bind fun v => plusJ v x) (some (.obj a)) =
        some (.obj o) ∧
      o.find? (·.1 == k) = (ps.reverse.find? (·.1 == k)).or (a.find? (·.1 == k))
  | [], a => ⟨a, rfl, by simp⟩
  | p :: ps, a => by
    rw [List.map_cons, List.foldl_cons, Option.bind_some, plusJ_obj]
    refine (addAll_objs k ps _).imp fun o ⟨ho, hg⟩ => ⟨ho, ?_⟩
    rw [hg, find?_key_merge, List.reverse_cons, List.find?_append, Option.or_assoc]

theorem eval_add_field (k : String) (pairs : List (String × Json)) :
    eval (.pipe .add (.field .id k)) env (.arr (pairs.map fun p => .obj [p])) =
      .ok [match pairs.reverse.find? (·.1 == k) with
        | some p => p.2
        | none => .null] := by
  cases pairs with
  | nil => rfl -- the empty sum is `null`, and `null.k` is `null`
  | cons p ps =>
    obtain ⟨o, ho, hg⟩ := addAll_objs k ps [p]
    have hadd : eval .add env (.arr ((p :: ps).map fun p => .obj [p])) = .ok [.obj o] := by
      rw [eval_add, List.map_cons, addAll_cons, ho]; rfl
    rw [eval_pipe_of hadd, eval_field, eval_id, bindRes_single, field, hg, List.reverse_cons, List.find?_append]
    rfl

/-- what `[$v.A[] | select(try .K) | {(.K): .V}]` collects; `none` when the stream errs -/
def lookupPairs (env : List Json) (s : Nat) (a k vp : List String) : Option (List (String × Json)) :=
  ((path a (env.getD s .null)).bind iter).bind fun elems => (elems.filter (keepElem k)).mapM (pairOf k vp)

theorem evalLeaf_lookup_eq (s : Nat) (a k vp : List String) (kv : String) :
    evalLeaf env (.lookup s a k vp kv) =
      ((lookupPairs env s a k vp).map fun pairs =>
        match pairs.reverse.find? (·.1 == kv) with
        | some p => p.2
        | none => .null).getD .null := by
  rw [evalLeaf, lookupPairs]
  cases (path a (env.getD s .null)).bind iter with
  | none => rfl
  | some elems =>
    -- `keepElem k` and `pairOf k vp` are the two functions the model writes inline
    show (match (elems.filter (keepElem k)).mapM (pairOf k vp) with
      | none => Json.null
      | some pairs => _) = (((elems.filter (keepElem k)).mapM (pairOf k vp)).map _).getD _
    cases (elems.filter (keepElem k)).mapM (pairOf k vp) <;> rfl

theorem eval_lookupPairs {s : Nat} (a k vp : List String) (h : s < env.length) :
    eval (.arr (.pipe (.pipe (.iter (pathExpr (.var s) a)) (.select (.tryE (pathExpr .id k))))
      (.objDyn (pathExpr .id k) (pathExpr .id vp)))) env inp =
      .ofOption ((lookupPairs env s a k vp).map fun ps => .arr (ps.map fun p => .obj [p])) := by
  -- the stream in three stages: the elements (`h1`), those `select` keeps (`h2`), their pairs (`h3`)
  rw [lookupPairs, eval_arr]
  cases he : (path a (env.getD s .null)).bind iter with
  | none =>
    have h1 : eval (.iter (pathExpr (.var s) a)) env inp = .fail := by rw [eval_iter_of (eval_path_var a h), he]
    rw [eval_pipe_of_fail (eval_pipe_of_fail h1)]; rfl
  | some elems =>
    have h1 : eval (.iter (pathExpr (.var s) a)) env inp = .ok elems := by rw [eval_iter_of (eval_path_var a h), he]
    have h2 : eval (.pipe _ (.select _)) env inp = .ok (elems.filter (keepElem k)) :=
      (eval_pipe_of_ok h1 (eval_select_try k)).trans (bindOuts_filter _ _)
    have h3 := bindOuts_mapM (pairOf k vp) (fun p => .obj [p]) (elems.filter (keepElem k))
    rw [eval_pipe_of_ok h2 (eval_objDyn_paths k vp), Option.bind_some]
    cases hps : (elems.filter (keepElem k)).mapM (pairOf k vp) with
    | none => exact if_pos (h3.2 hps)
    | some ps => rw [h3.1 ps hps]; rfl

theorem eval_leafExpr (l : Leaf) (h : l.slot' < env.length) : eval (leafExpr l) env inp = .ok [evalLeaf env l] := by
  cases l with
  | plain s p => exact eval_tryCatch_of .null (eval_path_var p h)
  | lookup s a k vp kv =>
    rw [evalLeaf_lookup_eq, leafExpr]
    refine eval_tryCatch_of .null ?_
    cases hps : lookupPairs env s a k vp with
    | none =>
      have harr : eval (.arr _) env inp = .fail := (eval_lookupPairs (s := s) a k vp h).trans (by rw [hps]; rfl)
      exact eval_pipe_of_fail (eval_pipe_of_fail harr)
    | some pairs =>
      have harr : eval (.arr _) env inp = .ok [.arr (pairs.map fun p => .obj [p])] :=
        (eval_lookupPairs (s := s) a k vp h).trans (by rw [hps]; rfl)
      -- `(A | add) | .kv`, where `A` has one output, is `add | .kv` on that output
      rw [eval_pipe, eval_pipe_of harr, ← eval_pipe]; exact eval_add_field kv pairs

/-! ### alternatives and parts

The values of the leaves of a field are bound at the levels from `base` on: `env.drop base` begins with them.
`L` is the environment the model evaluated the leaves in; `eval_emitFields` instantiates `env` with `L` and what has
been bound since. -/

theorem eval_var_of_drop {i : Nat} {v : Json} {rest : List Json} (h : env.drop i = v :: rest) :
    eval (.var i) env inp = .ok [v] := by
  rw [eval_var, ← List.head?_drop, h]; rfl

theorem alt_cons_cons (L : List Json) (l m : Leaf) (rest : List Leaf) :
    alt L (l :: m :: rest) = if truthy (evalLeaf L l) then evalLeaf L l else alt L (m :: rest) := rfl

theorem eval_altVars (L : List Json) : ∀ (ls : List Leaf) (base : Nat) {post : List Json}, ls ≠ [] →
    env.drop base = ls.map (evalLeaf L) ++ post → eval (altVars base ls.length) env inp = .ok [alt L ls]
  | [], _, _, h, _ => absurd rfl h
  | [l], _, _, _, h => eval_var_of_drop h
  | l :: m :: rest, base, post, _, h => by
    have ih := eval_altVars L (m :: rest) (base + 1) (List.cons_ne_nil _ _) (by rw [← List.tail_drop, h]; rfl)
    show eval (.alt (.var base) (altVars (base + 1) (m :: rest).length)) env inp = _
    rw [eval_alt_of (eval_var_of_drop h), ih, alt_cons_cons]
    cases truthy (evalLeaf L l) <;> rfl

/-- every part expression has one output: the wrapped alternative of its part -/
theorem eval_partExprs (L : List Json) (wrap : Expr → Expr) (w : Json → Json)
    (hw : ∀ {a : Expr} {x : Json}, eval a env inp = .ok [x] → eval (wrap a) env inp = .ok [w x]) :
    ∀ (parts : List (List Leaf)) (base : Nat), (∀ p ∈ parts, p ≠ []) →
    env.drop base = parts.flatten.map (evalLeaf L) →
    (partExprs wrap base (parts.map List.length)).map (fun e => eval e env inp) =
      (parts.map (alt L)).map fun x => .ok [w x]
  | [], _, _, _ => rfl
  | p :: ps, base, hne, h => by
    rw [List.flatten_cons, List.map_append] at h
    have ih := eval_partExprs L wrap w hw ps (base + p.length) (fun q hq => hne q (List.mem_cons_of_mem _ hq))
      (by rw [← List.drop_drop, h, List.drop_left' (List.length_map _)])
    rw [List.map_cons, partExprs, List.map_cons, ih, List.map_cons, List.map_cons,
      hw (eval_altVars L p base (hne p List.mem_cons_self) h)]

/-! ### `. == null`, under `any` and `all` -/

theorem beq_null (x : Json) : x.beq .null = x.isNull := by cases x <;> rfl

theorem truthy_bool (b : Bool) : truthy (.bool b) = b := by cases b <;> rfl

theorem eval_eq_null (x : Json) : eval (.eq .id (.lit .null)) env x = .ok [.bool x.isNull] := by
  rw [eval_eq, bindRes_single₂ eval_id (eval_lit _), beq_null]

theorem verdicts_isNull : ∀ (ys : List Json),
    verdicts (eval (.eq .id (.lit .null)) env) ys = some (ys.map Json.isNull)
  | [] => rfl
  | y :: ys => by
    rw [verdicts, eval_eq_null, verdicts_isNull ys, List.map_cons]
    cases y.isNull <;> rfl

theorem eval_any_isNull (ys : List Json) :
    eval (.anyF (.eq .id (.lit .null))) env (.arr ys) = .ok [.bool (ys.any Json.isNull)] := by
  rw [eval_anyF, iter, Option.bind_some, verdicts_isNull]
  exact congrArg (fun b => Res.ok [.bool b]) List.any_map

theorem eval_all_isNull (ys : List Json) :
    eval (.allF (.eq .id (.lit .null))) env (.arr ys) = .ok [.bool (ys.all Json.isNull)] := by
  rw [eval_allF, iter, Option.bind_some, verdicts_isNull]
  exact congrArg (fun b => Res.ok [.bool b]) List.all_map

/-! ### the `_` join -/

def partVal (x : Json) : Json := if x.isNull then .null else .str (tostring x)

theorem eval_strPart {a : Expr} {x : Json} (h : eval a env inp = .ok [x]) :
    eval (strPart a) env inp = .ok [partVal x] := by
  rw [strPart, partVal, eval_pipe_of h, eval_ite_of (eval_eq_null x), truthy_bool, eval_lit, eval_pipe_of eval_id,
    eval_tostring]
  cases x.isNull <;> rfl

theorem eval_commaList (w : Json → Json) : ∀ {es : List Expr} {vs : List Json}, vs ≠ [] →
    es.map (fun e => eval e env inp) = vs.map (fun v => .ok [w v]) → eval (commaList es) env inp = .ok (vs.map w)
  | _, [], h, _ => absurd rfl h
  | [], _ :: _, _, hf => nomatch hf
  | e :: es, v :: vs, _, hf => by
    obtain ⟨h1, h2⟩ := List.cons.inj hf
    cases es with
    | nil => rw [List.map_eq_nil_iff.mp h2.symm]; exact h1
    | cons e2 es =>
      have hvs : vs ≠ [] := fun h => List.cons_ne_nil e2 es (List.map_eq_nil_iff.mp (h ▸ h2))
      show eval (.comma e (commaList (e2 :: es))) env inp = _
      rw [eval_comma, show eval e env inp = .ok [w v] from h1, eval_commaList w hvs h2]
      rfl

theorem partVal_isNull (x : Json) : (partVal x).isNull = x.isNull := by
  unfold partVal; cases h : x.isNull <;> rfl

theorem partStr_eq (L : List Json) (p : List Leaf) :
    partStr L p = if (alt L p).isNull then none else some (tostring (alt L p)) := by
  unfold partStr
  cases alt L p <;> rfl

theorem evalString_eq (L : List Json) (parts : List (List Leaf)) :
    evalString L parts =
      if (parts.map (alt L)).any Json.isNull then .null
      else .str ("_".intercalate ((parts.map (alt L)).map tostring)) := by
  have hp : parts.map (partStr L) =
      (parts.map (alt L)).map fun x => if x.isNull then none else some (tostring x) := by
    rw [List.map_map]; exact List.map_congr_left fun p _ => partStr_eq L p
  rw [evalString, hp]
  generalize parts.map (alt L) = xs
  have hany : (xs.map fun x => if x.isNull then none else some (tostring x)).any Option.isNone =
      xs.any Json.isNull := by
    rw [List.any_map]
    refine congrArg (List.any xs) (funext fun x => ?_)
    show (if x.isNull then none else some (tostring x)).isNone = x.isNull
    cases x.isNull <;> rfl
  rw [hany]
  cases hn : xs.any Json.isNull with
  | true => rfl
  | false =>
    have hsome : (xs.map fun x => if x.isNull then none else some (tostring x)) = xs.map (some ∘ tostring) :=
      List.map_congr_left fun x hx => if_neg (List.any_eq_false.mp hn x hx)
    rw [if_neg Bool.false_ne_true, if_neg Bool.false_ne_true, hsome, List.filterMap_map]
    exact congrArg (fun l => Json.str ("_".intercalate l)) (congrFun List.filterMap_eq_map xs)

theorem eval_stringJoin (L : List Json) (parts : List (List Leaf)) {base : Nat}
    (hne : ∀ p ∈ parts, p ≠ []) (hp : parts ≠ []) (h : env.drop base = parts.flatten.map (evalLeaf L)) :
    eval (stringJoin base (parts.map List.length)) env inp = .ok [evalString L parts] := by
  have hcl := eval_commaList partVal (mt List.map_eq_nil_iff.mp hp)
    (eval_partExprs (inp := inp) L strPart partVal eval_strPart parts base hne h)
  rw [stringJoin, eval_pipe_of (eval_arr_of hcl), evalString_eq]
  generalize parts.map (alt L) = xs
  rw [eval_ite_of (eval_any_isNull _), truthy_bool, eval_lit, List.any_map,
    show Json.isNull ∘ partVal = Json.isNull from funext partVal_isNull]
  cases hx : xs.any Json.isNull with
  | true => rfl
  | false =>
    have hstr : (xs.map partVal).mapM strOf? = some (xs.map tostring) := by
      rw [List.mapM_map]
      refine mapM_eq_some_map fun x hx' => ?_
      rw [Function.comp, partVal, if_neg (List.any_eq_false.mp hx x hx')]; rfl
    rw [if_neg Bool.false_ne_true, if_neg Bool.false_ne_true, eval_join, hstr]

/-! ### the array join -/

theorem eval_plusList : ∀ {es : List Expr} {vs : List Json}, vs ≠ [] →
    es.map (fun e => eval e env inp) = vs.map (fun v => .ok [.arr [v]]) → eval (plusList es) env inp = .ok [.arr vs]
  | _, [], h, _ => absurd rfl h
  | [], _ :: _, _, hf => nomatch hf
  | e :: es, v :: vs, _, hf => by
    obtain ⟨h1, h2⟩ := List.cons.inj hf
    cases es with
    | nil => rw [List.map_eq_nil_iff.mp h2.symm]; exact h1
    | cons e2 es =>
      have hvs : vs ≠ [] := fun h => List.cons_ne_nil e2 es (List.map_eq_nil_iff.mp (h ▸ h2))
      show eval (.plus e (plusList (e2 :: es))) env inp = _
      rw [eval_plus, bindRes_single₂ h1 (eval_plusList hvs h2)]
      rfl

theorem beq_arr_nil (l : List Json) : (Json.arr l).beq (.arr []) = l.isEmpty := by
  cases l <;> rfl

theorem eval_arrayJoin (L : List Json) (parts : List (List Leaf)) {base : Nat}
    (hne : ∀ p ∈ parts, p ≠ []) (hp : parts ≠ []) (h : env.drop base = parts.flatten.map (evalLeaf L)) :
    eval (arrayJoin base (parts.map List.length)) env inp = .ok [evalArray L parts] := by
  have hpl := eval_plusList (mt List.map_eq_nil_iff.mp hp)
    (eval_partExprs (inp := inp) L .arr (fun x => .arr [x]) eval_arr_of parts base hne h)
  rw [arrayJoin, eval_pipe_of ((eval_pipe_of hpl).trans (eval_flatten _)), evalArray]
  generalize flattenL (parts.map (alt L)) = ys
  have hall : eval (.pipe .id (.allF (.eq .id (.lit .null)))) env (.arr ys) = .ok [.bool (ys.all Json.isNull)] := by
    rw [eval_pipe_of eval_id, eval_all_isNull]
  have hnil : eval (.neq .id (.lit (.arr []))) env (.arr ys) = .ok [.bool !ys.isEmpty] := by
    rw [eval_neq, bindRes_single₂ eval_id (eval_lit _), beq_arr_nil]
  rw [eval_ite_of (eval_and_of hall hnil), eval_lit, eval_id]
  simp only [truthy_bool]
  cases ys.all Json.isNull <;> cases ys.isEmpty <;> rfl

end eval

/-! ### values of outer slots do not change when the environment grows -/

theorem getD_append_lt (env suf : List Json) (s : Nat) (h : s < env.length) :
    (env ++ suf).getD s .null = env.getD s .null := by
  rw [List.getD_eq_getElem?_getD, List.getD_eq_getElem?_getD, List.getElem?_append_left h]

theorem evalLeaf_prefix (env suf : List Json) (l : Leaf) (h : l.slot' < env.length) :
    evalLeaf (env ++ suf) l = evalLeaf env l := by
  cases l with
  | plain s p => rw [evalLeaf, evalLeaf, getD_append_lt env suf s h]
  | lookup s a k vp kv => rw [evalLeaf, evalLeaf, getD_append_lt env suf s h]

theorem alt_prefix (env suf : List Json) : ∀ (ls : List Leaf), (∀ l ∈ ls, l.slot' < env.length) →
    alt (env ++ suf) ls = alt env ls
  | [], _ => rfl
  | [l], h => evalLeaf_prefix env suf l (h l List.mem_cons_self)
  | l :: m :: rest, h => by
    rw [alt_cons_cons, alt_cons_cons, evalLeaf_prefix env suf l (h l List.mem_cons_self),
      alt_prefix env suf (m :: rest) fun x hx => h x (List.mem_cons_of_mem _ hx)]

/-! ### binding the leaves and the fields

`L` is the environment of the loops and `env` begins with it; what the fields have bound after `L` is read by position
only: every value of the model is computed in `L`. -/

/-- the leaves are bound one after the other; each reads `L`, so none sees the others -/
theorem eval_bindAll_leaves (body : Expr) {L : List Json} : ∀ (ls : List Leaf) {env : List Json}, L <+: env →
    (∀ l ∈ ls, l.slot' < L.length) →
    eval (bindAll (ls.map leafExpr) body) env inp = eval body (env ++ ls.map (evalLeaf L)) inp
  | [], env, _, _ => by rw [List.map_nil, List.map_nil, List.append_nil, bindAll]
  | l :: ls, env, hL, h => by
    have hl := h l List.mem_cons_self
    have hv : evalLeaf env l = evalLeaf L l := by obtain ⟨X, rfl⟩ := hL; exact evalLeaf_prefix L X l hl
    rw [List.map_cons, bindAll, eval_bind_of (eval_leafExpr l (Nat.lt_of_lt_of_le hl hL.length_le)), hv,
      eval_bindAll_leaves body ls (List.prefix_append_of_prefix hL) fun x hx => h x (List.mem_cons_of_mem _ hx),
      List.append_assoc, List.singleton_append, List.map_cons]

/-- `pre` is what is bound below the leaves: the join reads from level `pre.length` on -/
theorem eval_joined (L pre : List Json) (s : Spec) (hne : ∀ p ∈ s.parts, p ≠ []) (hp : s.parts ≠ []) :
    eval (if s.isArray then arrayJoin pre.length s.sizes else stringJoin pre.length s.sizes)
      (pre ++ s.leaves.map (evalLeaf L)) inp = .ok [evalField L s] := by
  rw [evalField]
  cases s.isArray with
  | true => exact eval_arrayJoin L s.parts hne hp List.drop_left
  | false => exact eval_stringJoin L s.parts hne hp List.drop_left

/-- `lvl` is the next free level; `outs` are the levels of the joined values bound so far -/
theorem eval_emitFields {L : List Json} {lvl : Nat} :
    ∀ (fields : List (String × Spec)) (env : List Json) (outs : List (String × Nat)), wfFields L.length fields →
    L <+: env → env.length = lvl → (∀ o ∈ outs, o.2 < lvl) →
    eval (emitFields lvl fields outs) env inp =
      .ok [.obj ((outs.map fun o => (o.1, env.getD o.2 .null)) ++ fields.map fun f => (f.1, evalField L f.2))]
  | [], env, outs, _, _, hl, ho => by rw [emitFields, eval_objVars outs (hl ▸ ho), List.map_nil, List.append_nil]
  | (nm, s) :: rest, env, outs, hwf, hL, hl, ho => by
    subst hl
    obtain ⟨hparts, hp⟩ := hwf (nm, s) List.mem_cons_self
    have hslots : ∀ l ∈ s.leaves, l.slot' < L.length := fun l hl => by
      obtain ⟨p, hpm, hlp⟩ := List.mem_flatten.mp hl
      exact (hp p hpm).2 l hlp
    -- the rest of the fields is emitted in `env'`, where nothing bound so far has changed
    generalize henv' : env ++ s.leaves.map (evalLeaf L) ++ [evalField L s] = env'
    have hL' : L <+: env' := henv' ▸ List.prefix_append_of_prefix (List.prefix_append_of_prefix hL)
    have hlen : env'.length = env.length + s.leaves.length + 1 := by
      rw [← henv', List.length_append, List.length_append, List.length_map, List.length_singleton]
    have houts : outs.map (fun o => (o.1, env'.getD o.2 .null)) = outs.map fun o => (o.1, env.getD o.2 .null) :=
      List.map_congr_left fun o ho' => by rw [← henv', List.append_assoc, getD_append_lt env _ o.2 (ho o ho')]
    have hout : env'.getD (env.length + s.leaves.length) .null = evalField L s := by
      rw [← henv', ← List.length_map (f := evalLeaf L), ← List.length_append, List.getD_eq_getElem?_getD,
        List.getElem?_concat_length]; rfl
    rw [emitFields, eval_bindAll_leaves _ _ hL hslots,
      eval_bind_of (eval_joined L env s (fun p hp' => (hp p hp').1) hparts), henv',
      eval_emitFields rest env' _ (fun f hf => hwf f (List.mem_cons_of_mem _ hf)) hL' hlen,
      List.map_append, houts, List.map_cons, List.map_nil, hout, List.append_assoc, List.singleton_append,
      List.map_cons]
    -- left: the levels in the longer `outs` are below the new level
    intro o ho'
    rcases List.mem_append.mp ho' with h | h
    · exact Nat.lt_trans (ho o h) (Nat.lt_succ_of_le (Nat.le_add_right _ _))
    · rw [List.mem_singleton.mp h]; exact Nat.lt_succ_self _

/-- nothing bound after `L` yet: what `eval_emitLoops` asks of its body -/
theorem eval_emitFields_top {n : Nat} (fields : List (String × Spec)) (hwf : wfFields n fields) (L : List Json)
    (hl : L.length = n) :
    eval (emitFields n fields []) L inp = .ok [.obj (fields.map fun f => (f.1, evalField L f.2))] := by
  subst hl
  exact (eval_emitFields fields L [] hwf List.prefix_rfl rfl nofun).trans (by rw [List.map_nil, List.nil_append])

/-! ### the loops -/

/-- the environments of the nested loops below `env`: `bindings` read as a recursion -/
def loopEnvs : List (Nat × List String) → List Json → List (List Json)
  | [], env => [env]
  | d :: rest, env => (bindVar d.1 d.2 env).flatMap (loopEnvs rest)

theorem foldl_bindVar : ∀ (order : List (Nat × List String)) (E : List (List Json)),
    order.foldl (fun envs d => envs.flatMap (bindVar d.1 d.2)) E = E.flatMap (loopEnvs order)
  | [], E => (List.flatMap_singleton' E).symm
  | d :: rest, E => by rw [List.foldl_cons, foldl_bindVar rest, List.flatMap_assoc]; rfl

theorem bindings_eq_loopEnvs (order : List (Nat × List String)) (doc : Json) :
    bindings order doc = loopEnvs order [doc] := by
  rw [bindings, foldl_bindVar, List.flatMap_singleton]

theorem eval_emitLoops {body : Expr} {f : List Json → Json} {N : Nat}
    (hbody : ∀ env', env'.length = N → eval body env' inp = .ok [f env']) :
    ∀ (order : List (Nat × List String)) (env : List Json), env.length + order.length = N →
    wfOrder env.length order = true →
    eval (emitLoops order body) env inp = .ok ((loopEnvs order env).map f)
  | [], env, hN, _ => hbody env hN
  | d :: rest, env, hN, hwf => by
    obtain ⟨hd, hrest⟩ := wfOrder_cons.mp hwf
    have hstep : (fun v => eval (emitLoops rest body) (env ++ [v]) inp) =
        fun v => .ok ((loopEnvs rest (env ++ [v])).map f) :=
      funext fun v => eval_emitLoops hbody rest (env ++ [v])
        (by rw [List.length_append, List.length_singleton, Nat.add_assoc, Nat.add_comm 1]; exact hN)
        (by rw [List.length_append]; exact hrest)
    rw [emitLoops, eval_bind, eval_loopExpr d.2 hd, bindRes_ok, hstep, bindOuts_ok, loopEnvs, bindVar,
      List.flatMap_map, List.map_flatMap]

end O2P.Jq
