/-
Error analysis over ℚ of the binary64 path of `unix_nano_to_pv_string` (model: `fl`, `rne`, `fromNanosParts`). The only
facts used about a rounding: round-half-even of a/b is within 1/2 of a/b (`rne_err`); `fl a b` carries at most 53
significant bits, so when a/b < 2^P its error is at most 2^(P-54) (`fl_err`).
Mathlib is imported for ℚ with its ordered-field, `abs` and `zpow` lemmas and the tactics `linarith`, `positivity`,
`split_ifs`, `set`; nothing else in the development uses it.
-/
import O2P.Model.Time
import Mathlib.Tactic.Linarith
import Mathlib.Tactic.Positivity
import Mathlib.Algebra.Order.Field.Basic

namespace O2P.Time

theorem rne_cases (a b : ℕ) :
    rne a b = a / b ∧ 2 * (a % b) ≤ b ∨ rne a b = a / b + 1 ∧ b ≤ 2 * (a % b) := by
  unfold rne
  simp only
  split_ifs <;> lia

theorem rne_bounds (a b : ℕ) (hb : 0 < b) :
    2 * (rne a b * b) ≤ 2 * a + b ∧ 2 * a ≤ 2 * (rne a b * b) + b := by
  have h := Nat.div_add_mod' a b
  have hlt := Nat.mod_lt a hb
  rcases rne_cases a b with ⟨e, hr⟩ | ⟨e, hr⟩
  · rw [e]; lia
  · rw [e, Nat.add_one_mul (a / b)]; lia

theorem rne_err (a b : ℕ) (hb : 0 < b) : |((rne a b : ℕ) : ℚ) - (a : ℚ) / b| ≤ 1 / 2 := by
  obtain ⟨h1, h2⟩ := rne_bounds a b hb
  have hbq : (0 : ℚ) < b := by exact_mod_cast hb
  have h1q : (2 : ℚ) * (rne a b * b) ≤ 2 * a + b := by exact_mod_cast h1
  have h2q : (2 : ℚ) * a ≤ 2 * (rne a b * b) + b := by exact_mod_cast h2
  rw [sub_div' hbq.ne', abs_div, abs_of_pos hbq, div_le_iff₀ hbq, abs_le]
  constructor
  · linarith only [h2q]
  · linarith only [h1q]

/-- an error of half a unit, at scale `s` -/
theorem scaled_err {m t s x B : ℚ} (hs : 0 < s) (h : |m - t| ≤ 1 / 2) (hx : t * s = x)
    (hB : s ≤ 2 * B) : |m * s - x| ≤ B := by
  rw [← hx, ← sub_mul, abs_mul, abs_of_pos hs]
  calc |m - t| * s ≤ 1 / 2 * s := mul_le_mul_of_nonneg_right h hs.le
    _ ≤ B := by linarith only [hB]

def Dbl.val (x : Dbl) : ℚ := (x.num : ℚ) / x.den

theorem Dbl.den_pos (x : Dbl) : 0 < x.den := by
  unfold Dbl.den; split <;> positivity

theorem Dbl.num_lt {x : Dbl} {c : ℕ} (h : x.val < c) : x.num < x.den * c := by
  have d0 : (0 : ℚ) < x.den := by exact_mod_cast x.den_pos
  rw [Dbl.val, div_lt_iff₀ d0, mul_comm] at h
  exact_mod_cast h

/-- `modf`: whole part and fraction of a quotient -/
theorem natCast_div_add_mod (a b : ℕ) (hb : 0 < b) :
    (a : ℚ) / b = ((a / b : ℕ) : ℚ) + ((a % b : ℕ) : ℚ) / b := by
  have hbq : (b : ℚ) ≠ 0 := by exact_mod_cast hb.ne'
  rw [add_div' _ _ _ hbq, ← Nat.cast_mul, ← Nat.cast_add, Nat.div_add_mod']

/-- the exponent `fl` chooses -/
def flExp (a b : ℕ) : ℤ :=
  let t : Int := (a.log2 : Int) - (b.log2 : Int)
  let ge : Bool := if 0 ≤ t then decide (b * 2 ^ t.toNat ≤ a) else decide (b ≤ a * 2 ^ (-t).toNat)
  (if ge then t else t - 1) - 52

theorem fl_eq (a b : ℕ) (ha : a ≠ 0) :
    fl a b = ⟨if 0 ≤ flExp a b then rne a (b * 2 ^ (flExp a b).toNat)
              else rne (a * 2 ^ (-flExp a b).toNat) b, flExp a b⟩ := by
  unfold fl flExp
  simp only [ha, if_false]

/-- 53 significant bits: a quotient below `2^P` gets an exponent of at most `P - 53` -/
theorem flExp_le (a b P : ℕ) (ha : a ≠ 0) (h : a < b * 2 ^ P) :
    flExp a b ≤ (P : ℤ) - 53 := by
  have h1 : 2 ^ a.log2 ≤ a := Nat.log2_self_le ha
  have h2 : b < 2 ^ (b.log2 + 1) := Nat.lt_log2_self
  unfold flExp
  simp only
  generalize a.log2 = la at *
  generalize b.log2 = lb at *
  -- `2^la ≤ a < b * 2^P < 2^(lb + 1 + P)` gives `t = la - lb ≤ P`: enough where `t - 1` is taken; where `t < 0` itself
  -- is taken, `t < 0 ≤ P`.  Where `t ≥ 0` itself is taken, `b * 2^t ≤ a < b * 2^P` gives `t < P`.
  have h3 : la < lb + 1 + P := (Nat.pow_lt_pow_iff_right Nat.one_lt_two).mp <|
    calc 2 ^ la ≤ a := h1
      _ < b * 2 ^ P := h
      _ < 2 ^ (lb + 1) * 2 ^ P := Nat.mul_lt_mul_of_pos_right h2 (by positivity)
      _ = 2 ^ (lb + 1 + P) := (Nat.pow_add 2 _ _).symm
  by_cases ht : (0 : ℤ) ≤ (la : ℤ) - (lb : ℤ)
  · simp only [ht, if_true]
    by_cases hge : b * 2 ^ ((la : ℤ) - (lb : ℤ)).toNat ≤ a
    · simp only [hge, decide_true, if_true]
      have := Nat.lt_of_mul_lt_mul_left (lt_of_le_of_lt hge h)
      have := (Nat.pow_lt_pow_iff_right Nat.one_lt_two).mp this
      lia
    · simp only [hge, decide_false, Bool.false_eq_true, if_false]
      lia
  · simp only [ht, if_false]
    split <;> lia

/-- the unit in the last place, for an exponent of at most `P - 53` -/
theorem zpow_le_ulp {e : ℤ} {P : ℕ} (h : e ≤ (P : ℤ) - 53) : (2 : ℚ) ^ e ≤ 2 * (2 ^ P / 2 ^ 54) := by
  rw [mul_div_assoc', pow_succ 2 53, mul_comm, mul_div_mul_right _ _ two_ne_zero,
    ← zpow_natCast, ← zpow_natCast, ← zpow_sub₀ two_ne_zero]
  exact zpow_le_zpow_right₀ one_le_two h

/-- `fl a b` is `m · 2^e` with `m` the integer nearest `a / (b · 2^e)` (`rne_err`): half a unit at scale `2^e`
(`scaled_err`), and `2^e` is at most the unit in the last place (`flExp_le`). -/
theorem fl_err (a b P : ℕ) (hb : 0 < b) (h : a < b * 2 ^ P) :
    |(fl a b).val - (a : ℚ) / b| ≤ (2 : ℚ) ^ P / 2 ^ 54 := by
  by_cases ha : a = 0
  · subst ha
    have e : (fl 0 b).val = 0 := by simp [fl, Dbl.val, Dbl.num]
    rw [e, Nat.cast_zero, zero_div, sub_zero, abs_zero]
    positivity
  have ulp := zpow_le_ulp (flExp_le a b P ha h)
  rw [fl_eq a b ha]
  generalize flExp a b = e at *
  have h2 (E : ℕ) : (2 : ℚ) ^ E ≠ 0 := pow_ne_zero E two_ne_zero
  by_cases he : 0 ≤ e
  · obtain ⟨E, rfl⟩ := Int.eq_ofNat_of_zero_le he
    have r := rne_err a (b * 2 ^ E) (by positivity)
    -- computes `Dbl.val` and pushes the casts in: the goal becomes `|rne a (b * 2^E) * 2^E - a / b| ≤ 2^P / 2^54`
    simp only [Dbl.val, Dbl.num, Dbl.den, he, if_true, Int.toNat_natCast, Nat.cast_one, div_one,
      Nat.cast_mul, Nat.cast_pow, Nat.cast_ofNat] at r ⊢
    rw [zpow_natCast] at ulp
    exact scaled_err (t := a / (b * 2 ^ E)) (s := 2 ^ E) (by positivity) r
      (by rw [div_mul_eq_mul_div, mul_div_mul_right _ _ (h2 E)]) ulp
  · obtain ⟨E, rfl⟩ : ∃ E : ℕ, e = -(E : ℤ) := ⟨(-e).toNat, by lia⟩
    have r := rne_err (a * 2 ^ E) b hb
    -- as above: the goal becomes `|rne (a * 2^E) b / 2^E - a / b| ≤ 2^P / 2^54`
    simp only [Dbl.val, Dbl.num, Dbl.den, he, if_false, neg_neg, Int.toNat_natCast, Nat.cast_pow,
      Nat.cast_mul, Nat.cast_ofNat] at r ⊢
    rw [zpow_neg, zpow_natCast] at ulp
    rw [div_eq_mul_inv _ ((2 : ℚ) ^ E)]
    exact scaled_err (t := a * 2 ^ E / b) (s := (2 ^ E)⁻¹) (by positivity) r
      (by rw [mul_div_right_comm, mul_inv_cancel_right₀ (h2 E)]) ulp

/-- `fromNanosMicros` written without the pair -/
theorem fromNanosMicros_eq (n : ℕ) :
    fromNanosMicros n =
      (let x0 := fl n 1
       let x1 := fl x0.num (x0.den * 1000000000)
       let y := fl (x1.num % x1.den * 1000000) x1.den
       x1.num / x1.den * 1000000 + rne y.num y.den) := by
  unfold fromNanosMicros fromNanosParts
  simp only [show Gen.nanoDivisor = 1000000000 from rfl]
  split <;> lia

/-- the error budget of `fromNanos_near`: 2^8 + 10^9 · 2^-22 + 10^3 · (2^-34 + 1/2) < 995 -/
theorem near_of_steps {n v0 v1 ip fr vy us : ℚ} (hA : |v0 - n| ≤ 2 ^ 62 / 2 ^ 54)
    (hB : |v1 - v0 / 1000000000| ≤ 2 ^ 32 / 2 ^ 54) (h1 : v1 = ip + fr)
    (hC : |vy - fr * 1000000| ≤ 2 ^ 20 / 2 ^ 54) (hD : |us - vy| ≤ 1 / 2) :
    |(ip * 1000000 + us) * 1000 - n| < 995 := by
  rw [abs_le] at hA hB hC hD
  rw [abs_lt]
  constructor
  · linarith only [hA.1, hB.1, hC.1, hD.1, h1]
  · linarith only [hA.2, hB.2, hC.2, hD.2, h1]

/-- For every nanosecond count below 4.2·10^18 (year 2103) the microsecond count shown by `unix_nano_to_pv_string` is
within 0.995 of `n / 1000`: float(n) loses at most 256 ns, the division by 1e9 at most 2^-22 s, the product with 1e6 at
most 2^-34 µs, round-half-even at most 0.5 µs. -/
theorem fromNanos_near (n : ℕ) (hn : n < 4200000000000000000) :
    |((fromNanosMicros n : ℕ) : ℚ) * 1000 - n| < 995 := by
  rw [fromNanosMicros_eq]
  simp only
  set x0 := fl n 1
  set x1 := fl x0.num (x0.den * 1000000000)
  set y := fl (x1.num % x1.den * 1000000) x1.den
  -- float(n) < 2^62
  have hA : |x0.val - n| ≤ 2 ^ 62 / 2 ^ 54 := by
    have := fl_err n 1 62 Nat.one_pos (by lia)
    rwa [Nat.cast_one, div_one] at this
  -- / 1e9 < 2^32
  have hlt : x0.num < x0.den * 1000000000 * 2 ^ 32 := by
    rw [Nat.mul_assoc]
    refine Dbl.num_lt ?_
    have : (n : ℚ) < 4200000000000000000 := by exact_mod_cast hn
    push_cast
    linarith only [this, (abs_le.1 hA).2]
  have hB : |x1.val - x0.val / 1000000000| ≤ 2 ^ 32 / 2 ^ 54 := by
    have := fl_err x0.num (x0.den * 1000000000) 32 (Nat.mul_pos x0.den_pos (by decide)) hlt
    rwa [Nat.cast_mul, ← div_div, Nat.cast_ofNat] at this
  -- modf
  have h1 := natCast_div_add_mod x1.num x1.den x1.den_pos
  -- fraction * 1e6 < 2^20
  have hC : |y.val - (x1.num % x1.den : ℕ) / x1.den * 1000000| ≤ 2 ^ 20 / 2 ^ 54 := by
    have := fl_err (x1.num % x1.den * 1000000) x1.den 20 x1.den_pos
      (Nat.mul_lt_mul_of_lt_of_le (Nat.mod_lt _ x1.den_pos) (by decide) (by decide))
    rwa [Nat.cast_mul, mul_div_right_comm, Nat.cast_ofNat] at this
  -- round
  have hD := rne_err y.num y.den y.den_pos
  push_cast
  exact near_of_steps hA hB h1 hC hD

theorem fromNanos_near_nat (n : ℕ) (hn : n < 4200000000000000000) :
    n < 995 + fromNanosMicros n * 1000 ∧ fromNanosMicros n * 1000 < 995 + n := by
  obtain ⟨h1, h2⟩ := abs_lt.1 (fromNanos_near n hn)
  exact ⟨by exact_mod_cast neg_lt_sub_iff_lt_add.1 h1, by exact_mod_cast sub_lt_iff_lt_add.1 h2⟩

theorem fromNanosMicros_exact (k : ℕ) (hk : 1000 * k < 4200000000000000000) :
    fromNanosMicros (1000 * k) = k := by
  have := fromNanos_near_nat (1000 * k) hk
  lia

/-- 1990 = 2 · 995: both counts, times 1000, are less than 995 from their arguments (`fromNanos_near_nat`) -/
theorem fromNanosMicros_mono_far (n n' : ℕ) (hn' : n' < 4200000000000000000) (h : n + 1990 ≤ n') :
    fromNanosMicros n ≤ fromNanosMicros n' := by
  have a := fromNanos_near_nat n (by lia)
  have b := fromNanos_near_nat n' hn'
  lia

end O2P.Time
