import O2P.Model.Store
/-! Consecutive grouping (`itertools.groupby`). -/
namespace O2P.Store

variable {α κ : Type} [DecidableEq κ]

/-- grouping only inserts cuts -/
theorem groupBy_flatten (key : α → κ) (xs : List α) : ((groupBy key xs).map (·.2)).flatten = xs := by
  fun_induction groupBy key xs with
  | case1 => rfl
  -- `hg : groupBy key xs = (key x, g) :: r`, the first key being that of `x`: `x` joins `g`
  | case2 x xs g r hg ih => rw [hg] at ih; simpa using ih
  -- `hg : groupBy key xs = (k, g) :: r` and `_ : key x ≠ k`: `x` opens a group
  | case3 x xs k g r hg _ ih => rw [hg] at ih; simpa using ih
  -- `hg : groupBy key xs = []`
  | case4 x xs hg ih => rw [hg] at ih; simpa using ih

theorem groupBy_members (key : α → κ) : ∀ (xs : List α) (k : κ) (g : List α),
    (k, g) ∈ groupBy key xs → g ≠ [] ∧ ∀ x ∈ g, key x = k := by
  intro xs
  fun_induction groupBy key xs with
  | case1 => nofun
  | case2 x xs g0 r hg ih =>
    -- `x` joins the first group: `hg : groupBy key xs = (key x, g0) :: r`
    intro k g h
    rw [hg] at ih
    rcases List.mem_cons.mp h with h | h
    · cases h
      exact ⟨List.cons_ne_nil x g0, List.forall_mem_cons.mpr ⟨rfl, (ih _ g0 List.mem_cons_self).2⟩⟩
    · exact ih k g (List.mem_cons_of_mem _ h)
  | case3 x xs k0 g0 r hg _ ih =>
    -- `x` opens a group of its own: `hg : groupBy key xs = (k0, g0) :: r`, `_ : key x ≠ k0`
    intro k g h
    rw [hg] at ih
    rcases List.mem_cons.mp h with h | h
    · cases h; simp
    · exact ih k g h
  | case4 x xs _ _ => intro k g h; cases List.mem_singleton.mp h; simp

theorem groupBy_key_of_mem (key : α → κ) (xs : List α) (k : κ) (g : List α)
    (h : (k, g) ∈ groupBy key xs) : ∃ x ∈ xs, key x = k := by
  have ⟨hne, hk⟩ := groupBy_members key xs k g h
  obtain ⟨x, hx⟩ := List.exists_mem_of_ne_nil g hne
  refine ⟨x, ?_, hk x hx⟩
  rw [← groupBy_flatten key xs]
  exact List.mem_flatten.mpr ⟨g, List.mem_map.mpr ⟨(k, g), h, rfl⟩, hx⟩

-- `String` keys (workflow names, trace ids) here and in `groupBy_keys_chain`: these two need an order on the keys
theorem groupBy_keys_increasing (key : α → String) (xs : List α)
    (h : xs.Pairwise (fun a b => key a ≤ key b)) : ((groupBy key xs).map (·.1)).Pairwise (· < ·) := by
  fun_induction groupBy key xs with
  | case1 => exact .nil
  | case2 x xs g r hg ih =>
    have ih := ih h.of_cons
    rwa [hg] at ih
  | case3 x xs k g r hg hne ih =>
    -- `x` opens a group (`hne : key x ≠ k`): its key is below the next group's `k`, the key of an element of `xs`
    have ih := ih h.of_cons
    rw [hg] at ih
    obtain ⟨y, hy, ey⟩ := groupBy_key_of_mem key xs k g (hg ▸ List.mem_cons_self)
    have hlt : key x < k := Std.lt_of_le_of_ne (ey ▸ List.rel_of_pairwise_cons h hy) hne
    refine List.pairwise_cons.mpr ⟨fun k' hk' => ?_, ih⟩
    rcases List.mem_cons.mp hk' with rfl | hk'
    · exact hlt
    · exact String.lt_trans hlt (List.rel_of_pairwise_cons ih hk')
  | case4 x xs _ _ => exact List.pairwise_singleton _ _

/-- when the keys never decrease along `xs`, no key heads two groups -/
theorem groupBy_keys_chain (key : α → String) (xs : List α)
    (h : xs.Pairwise (fun a b => key a ≤ key b)) : ((groupBy key xs).map (·.1)).Nodup :=
  (groupBy_keys_increasing key xs h).imp String.ne_of_lt

/-- in a list of keyed groups with distinct keys, each group is the elements with its key -/
theorem filter_flatten_of_keyed (key : α → κ) : ∀ (gs : List (κ × List α)),
    (∀ p ∈ gs, ∀ x ∈ p.2, key x = p.1) → (gs.map (·.1)).Nodup →
    ∀ p ∈ gs, p.2 = (gs.map (·.2)).flatten.filter (fun x => key x = p.1)
  | [], _, _, _, h => by simp at h
  | q :: gs, hk, hnd, p, h => by
    have ⟨hq, hk'⟩ := List.forall_mem_cons.mp hk
    have ⟨hqn, hnd'⟩ := List.nodup_cons.mp hnd
    rw [List.map_cons, List.flatten_cons, List.filter_append]
    rcases List.mem_cons.mp h with rfl | h
    · -- the first group passes whole; behind it nothing has its key
      rw [List.filter_eq_self.mpr (by simpa using hq), List.filter_eq_nil_iff.mpr, List.append_nil]
      intro x hx e
      obtain ⟨_, hg, hx⟩ := List.mem_flatten.mp hx
      obtain ⟨r, hr, rfl⟩ := List.mem_map.mp hg
      exact hqn (List.mem_map.mpr ⟨r, hr, (hk' r hr x hx).symm.trans (of_decide_eq_true e)⟩)
    · -- nothing of the first group has the key of `p`
      rw [List.filter_eq_nil_iff.mpr, List.nil_append]
      · exact filter_flatten_of_keyed key gs hk' hnd' p h
      · intro x hx e
        exact hqn (List.mem_map.mpr ⟨p, h, ((hq x hx).symm.trans (of_decide_eq_true e)).symm⟩)

theorem groupBy_eq_filter (key : α → κ) (xs : List α) (hnd : ((groupBy key xs).map (·.1)).Nodup)
    {k : κ} {g : List α} (h : (k, g) ∈ groupBy key xs) : g = xs.filter (fun x => key x = k) := by
  have := filter_flatten_of_keyed key (groupBy key xs)
    (fun p hp => (groupBy_members key xs p.1 p.2 hp).2) hnd (k, g) h
  rwa [groupBy_flatten] at this

end O2P.Store
