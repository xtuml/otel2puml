/-
The AND recovery over the whole tree (`process_missing_and_gates` = `missingAnd`, under every choice of the cover step):
every outcome stands for the tree it was computed from.  The children's outcomes are chosen independently, so an
outcome's children are related to the tree's position by position (`Rel2`).
-/
import O2P.Lemmas.Good
import O2P.Lemmas.Cover
namespace O2P.Gate

theorem missingAndL_rel {F : List (List String)} {fuel : Nat} : ∀ {cs cs'' : List PTree},
    cs'' ∈ missingAndL fuel F cs → Rel2 (fun c c'' => c'' ∈ missingAnd fuel F c) cs cs''
  | [], cs'', h => by
    simp only [missingAndL, List.mem_singleton] at h
    subst h
    exact .nil
  | c :: cs, cs'', h => by
    simp only [missingAndL, List.mem_flatMap, List.mem_map] at h
    obtain ⟨c', hc', rest, hrest, rfl⟩ := h
    exact .cons hc' (missingAndL_rel hrest)

/-- what the children of a node may be replaced by before the recursion goes on -/
theorem missingAnd_node {F : List (List String)} {fuel : Nat} {op : POp} {cs : List PTree} {o : PTree}
    (h : o ∈ missingAnd (fuel + 1) F (.node op cs)) :
    ∃ cs' cs'', o = .node op cs'' ∧ cs'' ∈ missingAndL fuel F cs' ∧
      (cs' = cs ∨ (op = .or ∧ ∃ uni cover, cs = uni.map PTree.leaf ∧ some cover ∈ weightedCover (projF F uni) uni ∧
        cs' = cover.map partTree)) := by
  simp only [missingAnd_node_eq, List.mem_flatMap, List.mem_map] at h
  obtain ⟨cs', hcs', cs'', hcs'', rfl⟩ := h
  refine ⟨cs', cs'', rfl, hcs'', ?_⟩
  by_cases hop : (op == POp.or) = true
  · simp only [hop, if_true] at hcs'
    cases hm : cs.mapM leafLabel? with
    | none =>
      simp only [hm, List.mem_singleton] at hcs'
      exact Or.inl hcs'
    | some uni =>
      simp only [hm, List.mem_map] at hcs'
      obtain ⟨r, hr, rfl⟩ := hcs'
      cases r with
      | none => exact Or.inl rfl
      | some cover =>
        right
        refine ⟨by simpa using hop, uni, cover, mapM_leafLabel_iff.mp hm, hr, rfl⟩
  · simp only [hop, Bool.false_eq_true, if_false, List.mem_singleton] at hcs'
    exact Or.inl hcs'

theorem rebuild_good (F : List (List String)) (hFnd : ∀ s0 ∈ F, s0.Nodup) (R : List String)
    (cover : List (List String)) (h : some cover ∈ weightedCover (projF F R) R) :
    Good F (.node .or (R.map PTree.leaf)) (.node .or (cover.map partTree)) := by
  obtain ⟨c1, c2, _, _⟩ := weightedCover_spec h
  have hpart : ∀ p ∈ cover, ∃ s0 ∈ F, interS s0 R = p := fun p hp =>
    let ⟨s0, hs0, e, _⟩ := mem_projF.mp (c1 p hp)
    ⟨s0, hs0, e⟩
  refine ⟨fun s hp hs => ?_, fun x hx => ?_, fun _ => ?_⟩
  · -- `s` is not empty, and is the part among `R` of an observed set
    have hne : s ≠ [] := by
      rintro rfl
      simpa [canEmpty, canEmptyAny_eq] using sem_nil_canEmpty _ hs
    obtain ⟨s0, hs0, hag⟩ := hp
    have hsR := sem_sub hs
    simp only [labels_node, labelsL_leaves] at hag hsR
    have hse : SameSet s (interS s0 R) := fun x =>
      ⟨fun hx => mem_interS.mpr ⟨(hag x (hsR x hx)).mpr hx, hsR x hx⟩, fun hx =>
        (hag x (mem_interS.mp hx).2).mp (mem_interS.mp hx).1⟩
    refine rebuilt_sem hne fun x hx => ?_
    obtain ⟨p, hp, hsub, hxp⟩ := cover_explains_proj h hs0 x ((hse x).mp hx)
    exact ⟨p, hp, fun y hy => (hse y).mpr (hsub y hy), hxp⟩
  · simp only [labels_node, labelsL_parts, labelsL_leaves] at hx ⊢
    obtain ⟨p, hp, hxp⟩ := List.mem_flatten.mp hx
    obtain ⟨s0, _, rfl⟩ := hpart p hp
    exact (mem_interS.mp hxp).2
  · -- the new labels are the cover's members in a row: each a part of an observed set, and pairwise disjoint
    simp only [labels_node, labelsL_parts]
    refine List.Nodup.sublist List.filter_sublist
      (List.pairwise_flatten.mpr ⟨fun p hp => ?_, c2.imp fun h x hx y hy (e : x = y) => h x ⟨hx, e ▸ hy⟩⟩)
    obtain ⟨s0, hs0, rfl⟩ := hpart p hp
    exact List.Nodup.sublist List.filter_sublist (hFnd s0 hs0)

theorem missingAnd_good (F : List (List String)) (hF : ∀ s0 ∈ F, "" ∉ s0) (hFnd : ∀ s0 ∈ F, s0.Nodup) :
    ∀ (fuel : Nat) (t : PTree), (NE t.labels).Nodup → ∀ o ∈ missingAnd fuel F t, Good F t o
  | 0, _, _, o, ho | _ + 1, .leaf _, _, o, ho | _ + 1, .tau, _, o, ho => by
    simp only [missingAnd, List.mem_singleton] at ho
    exact ho ▸ Good.refl F _
  | fuel + 1, .node op cs, hnd, o, ho => by
    obtain ⟨cs', cs'', rfl, hcs'', hcase⟩ := missingAnd_node ho
    -- the recursion below the (possibly rebuilt) children `cs'`
    have finish : (NE (PTree.labelsL cs')).Nodup → Good F (.node op cs') (.node op cs'') := fun hnd' =>
      node_congr hF op hnd' ((missingAndL_rel hcs'').imp_mem fun c hc c'' h =>
        missingAnd_good F hF hFnd fuel c (nodup_labels_child hnd' hc) c'' h)
    rcases hcase with rfl | ⟨rfl, uni, cover, rfl, hcov, rfl⟩
    · exact finish hnd
    · have hrb := rebuild_good F hFnd uni cover hcov
      exact hrb.trans (finish (hrb.nd hnd))

end O2P.Gate
