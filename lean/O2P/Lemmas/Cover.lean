/-
`get_weighted_cover` (model `weightedCover`): a returned cover explains every observed set as the union of the cover
members inside it, so the OR gate `process_missing_and_gates` builds from it produces that set.
-/
import O2P.Lemmas.Bridge
namespace O2P.Gate

/-- the reduction loop only removes elements of cover members contained in the original set -/
theorem reduceBy_spec (e0 : List String) : ∀ (cover : List (List String)) (e : List String),
    (∀ x ∈ e, x ∈ e0) → ∀ x ∈ e, x ∈ reduceBy cover e ∨ ∃ p ∈ cover, (∀ y ∈ p, y ∈ e0) ∧ x ∈ p
  | [], _, _, _, hx => Or.inl hx
  | c :: cs, e, hsub, x, hx => by
    have rest : ∀ e', (∀ y ∈ e', y ∈ e0) → x ∈ e' →
        x ∈ reduceBy cs e' ∨ ∃ p ∈ c :: cs, (∀ y ∈ p, y ∈ e0) ∧ x ∈ p := fun e' h' hx' =>
      (reduceBy_spec e0 cs e' h' x hx').imp_right fun ⟨p, hp, h⟩ => ⟨p, List.mem_cons_of_mem _ hp, h⟩
    rw [reduceBy, List.foldl_cons]
    split
    next hc =>
      by_cases hxc : x ∈ c
      · exact Or.inr ⟨c, List.mem_cons_self, fun y hy => hsub y (subsetS_iff.mp hc y hy), hxc⟩
      · exact rest _ (fun y hy => hsub y (mem_diffS.mp hy).1) (mem_diffS.mpr ⟨hx, hxc⟩)
    next => exact rest e hsub hx

theorem greedy_spec {es : List (List String)} : ∀ {fuel : Nat} {u : List String} {acc c : List (List String)},
    some c ∈ greedy fuel es u acc →
    (∀ p ∈ c, p ∈ acc ∨ p ∈ es) ∧ (∀ x ∈ u, ∃ p ∈ c, x ∈ p) ∧ (∀ p ∈ acc, p ∈ c)
  | 0, _, _, _, h => by simp [greedy] at h
  | fuel + 1, u, acc, c, h => by
    rw [greedy] at h
    split at h
    next hu =>
      cases List.isEmpty_iff.mp hu
      cases List.mem_singleton.mp h
      exact ⟨fun p hp => Or.inl hp, fun x hx => (nomatch hx), fun p hp => hp⟩
    next =>
      obtain ⟨s, hs, h⟩ := List.mem_flatMap.mp h
      split at h
      next => simp at h
      next =>
        -- `s` is chosen, the loop goes on with what `s` leaves of the universe
        obtain ⟨h1, h2, h3⟩ := greedy_spec h
        refine ⟨fun p hp => ?_, fun x hx => ?_, fun p hp => h3 p (List.mem_append_left _ hp)⟩
        · rcases h1 p hp with h | h
          · rcases List.mem_append.mp h with h | h
            · exact Or.inl h
            · exact Or.inr (List.mem_singleton.mp h ▸ (List.mem_filter.mp hs).1)
          · exact Or.inr h
        · by_cases hxs : x ∈ s
          · exact ⟨s, h3 s (by simp), hxs⟩
          · exact h2 x (mem_diffS.mpr ⟨hx, hxs⟩)

theorem pairwiseDisjoint_spec : ∀ (c : List (List String)), pairwiseDisjoint c = true →
    c.Pairwise fun a b => ∀ x, ¬ (x ∈ a ∧ x ∈ b)
  | [], _ => List.Pairwise.nil
  | a :: cs, h => by
    simp only [pairwiseDisjoint, Bool.and_eq_true, List.all_eq_true] at h
    exact .cons (fun b hb x hx => disjointS_iff.mp (h.1 b hb) x hx.1 hx.2) (pairwiseDisjoint_spec cs h.2)

theorem mem_weightedCover {es0 : List (List String)} {u : List String} {c : List (List String)}
    (h : some c ∈ weightedCover es0 u) :
    some c ∈ greedy (u.length + 1) (es0.filter fun s => !sameS s u) u [] ∧
      checkCover (es0.filter fun s => !sameS s u) c = true := by
  rw [weightedCover] at h
  split at h
  next => simp at h
  next =>
    obtain ⟨r, hr, hb⟩ := List.mem_map.mp h
    obtain ⟨c', rfl, hb⟩ := Option.bind_eq_some_iff.mp hb
    obtain ⟨hck, hc⟩ := Option.ite_none_right_eq_some.mp hb
    cases hc
    exact ⟨hr, hck⟩

theorem weightedCover_spec {es0 : List (List String)} {u : List String} {c : List (List String)}
    (h : some c ∈ weightedCover es0 u) :
    (∀ p ∈ c, p ∈ es0) ∧
    (c.Pairwise fun a b => ∀ x, ¬ (x ∈ a ∧ x ∈ b)) ∧
    (∀ x ∈ u, ∃ p ∈ c, x ∈ p) ∧
    (∀ e ∈ es0, sameS e u = false → ∀ x ∈ e, ∃ p ∈ c, (∀ y ∈ p, y ∈ e) ∧ x ∈ p) := by
  obtain ⟨hgr, hck⟩ := mem_weightedCover h
  obtain ⟨g1, g2, _⟩ := greedy_spec hgr
  simp only [checkCover, Bool.and_eq_true, List.all_eq_true, List.isEmpty_iff] at hck
  refine ⟨fun p hp => ?_, pairwiseDisjoint_spec c hck.2, g2, fun e he hne x hx => ?_⟩
  · exact (List.mem_filter.mp ((g1 p hp).resolve_left (nomatch ·))).1
  · -- the final check reduced `e` to nothing
    have hemp := hck.1 e (List.mem_filter.mpr ⟨he, by simp [hne]⟩)
    exact (reduceBy_spec e c e (fun _ hy => hy) x hx).resolve_left fun h => by simp [hemp] at h

/-- once the observed sets lie inside the universe, every event of it lies in a cover member inside any set that holds
all of the universe -/
theorem cover_explains_universe {es0 : List (List String)} {u : List String} {c : List (List String)}
    (h : some c ∈ weightedCover es0 u) (hsub : ∀ p ∈ es0, ∀ x ∈ p, x ∈ u) {e : List String} (hu : ∀ y ∈ u, y ∈ e) :
    ∀ x ∈ u, ∃ p ∈ c, (∀ y ∈ p, y ∈ e) ∧ x ∈ p := fun x hx =>
  have ⟨c1, _, c3, _⟩ := weightedCover_spec h
  let ⟨p, hp, hxp⟩ := c3 x hx
  ⟨p, hp, fun y hy => hu y (hsub p (c1 p hp) y hy), hxp⟩

/-- the cover explains every observed set, once the observed sets lie inside the universe -/
theorem cover_explains {es0 : List (List String)} {u : List String} {c : List (List String)}
    (h : some c ∈ weightedCover es0 u) (hsub : ∀ p ∈ es0, ∀ x ∈ p, x ∈ u) {e : List String} (he : e ∈ es0) :
    ∀ x ∈ e, ∃ p ∈ c, (∀ y ∈ p, y ∈ e) ∧ x ∈ p := by
  obtain ⟨_, _, _, hexp⟩ := weightedCover_spec h
  cases hsame : sameS e u
  · exact hexp e he hsame
  · exact fun x hx => cover_explains_universe h hsub (fun y => (sameS_iff.mp hsame y).mpr) x (hsub e he x hx)

/-- what `process_missing_and_gates` hands the cover step (code after fix dcf1496): of every observed set the part among
the gate's events, empty parts dropped, as a set of sets -/
def projF (F : List (List String)) (R : List String) : List (List String) :=
  ((F.map fun s => interS s R).filter fun s => !s.isEmpty).eraseDups

theorem mem_projF {F : List (List String)} {R t : List String} :
    t ∈ projF F R ↔ ∃ s ∈ F, interS s R = t ∧ t ≠ [] := by
  unfold projF
  rw [List.mem_eraseDups, List.mem_filter, List.mem_map]
  constructor
  · rintro ⟨⟨s, hs, rfl⟩, hne⟩
    exact ⟨s, hs, rfl, by simpa using hne⟩
  · rintro ⟨s, hs, rfl, hne⟩
    exact ⟨⟨s, hs, rfl⟩, by simpa using hne⟩

theorem cover_explains_proj {F : List (List String)} {R s0 : List String} {cover : List (List String)}
    (h : some cover ∈ weightedCover (projF F R) R) (hs0 : s0 ∈ F) :
    ∀ x ∈ interS s0 R, ∃ p ∈ cover, (∀ y ∈ p, y ∈ interS s0 R) ∧ x ∈ p := by
  intro x hx
  -- the sets handed to the cover step lie inside `R`, and the part of `s0`, not being empty, is one of them
  have hsub : ∀ p ∈ projF F R, ∀ y ∈ p, y ∈ R := fun p hp y hy => by
    obtain ⟨s, _, rfl, _⟩ := mem_projF.mp hp
    exact (mem_interS.mp hy).2
  exact cover_explains h hsub (mem_projF.mpr ⟨s0, hs0, rfl, List.ne_nil_of_mem hx⟩) x hx

/-- a cover member as the tree `process_missing_and_gates` builds -/
def partTree (p : List String) : PTree :=
  match p with
  | [a] => PTree.leaf a
  | _ => PTree.node .and (p.map PTree.leaf)

theorem partTree_singleton (a : String) : partTree [a] = .leaf a := rfl

theorem partTree_cases (p : List String) :
    (∃ a, p = [a] ∧ partTree p = .leaf a) ∨ partTree p = .node .and (p.map PTree.leaf) := by
  unfold partTree
  split
  · exact Or.inl ⟨_, rfl, rfl⟩
  · exact Or.inr rfl

/-- `missingAnd` at a node in these terms: the model writes `projF` and `partTree` out in place -/
theorem missingAnd_node_eq (fuel : Nat) (F : List (List String)) (op : POp) (cs : List PTree) :
    missingAnd (fuel + 1) F (.node op cs) =
      (if op == .or then
        match cs.mapM leafLabel? with
        | some uni => (weightedCover (projF F uni) uni).map fun r => match r with
          | some cover => cover.map partTree
          | none => cs
        | none => [cs]
      else [cs]).flatMap fun cs' => (missingAndL fuel F cs').map fun cs'' => PTree.node op cs'' := by
  rw [missingAnd]
  rfl

/-- a cover member as a gate of the judge (`partTree` read by `toGate`) -/
def partGate (p : List String) : Gate :=
  match p with
  | [a] => .leaf a
  | _ => .node .and (p.map .leaf)

/-- `OR(AND(group), …)` -/
def rebuilt (c : List (List String)) : Gate := .node .or (c.map partGate)

theorem labels_partTree (p : List String) : (partTree p).labels = p := by
  obtain ⟨a, rfl, h⟩ | h := partTree_cases p <;> rw [h]
  · rfl
  · exact labelsL_leaves p

theorem labelsL_parts : ∀ (c : List (List String)), PTree.labelsL (c.map partTree) = c.flatten
  | [] => rfl
  | p :: ps => by simp [labelsL_cons, labels_partTree, labelsL_parts ps]

theorem sem_partTree (p : List String) : (partTree p).sem p := by
  obtain ⟨a, rfl, h⟩ | h := partTree_cases p <;> rw [h]
  · exact SameSet.refl _
  · exact sem_and.mpr ⟨_, sem_leaves p, by rw [flatten_singletons]; exact .refl p⟩

/-- The tree `O(partTree p, …)`, whose gate is `rebuilt c` (`toGate_rebuilt`), has every non-empty set the cover explains:
select the cover members inside `e`. -/
theorem rebuilt_sem {c : List (List String)} {e : List String} (hne : e ≠ [])
    (hexp : ∀ x ∈ e, ∃ p ∈ c, (∀ y ∈ p, y ∈ e) ∧ x ∈ p) : (PTree.node .or (c.map partTree)).sem e := by
  refine sem_or.mpr ⟨(c.filter fun p => subsetS p e).map partTree, List.filter_sublist.map _, ?_,
    sem_and.mpr ⟨_, Rel2.map_left_iff.mpr (Rel2.refl sem_partTree _), fun x => ?_⟩⟩
  · obtain ⟨x, hx⟩ := List.exists_mem_of_ne_nil e hne
    obtain ⟨p, hp, hsub, _⟩ := hexp x hx
    exact List.ne_nil_of_mem (List.mem_map_of_mem (List.mem_filter.mpr ⟨hp, subsetS_iff.mpr hsub⟩))
  · simp only [List.mem_flatten, List.mem_filter, subsetS_iff]
    exact ⟨fun hx => let ⟨p, hp, hsub, hxp⟩ := hexp x hx; ⟨p, ⟨hp, hsub⟩, hxp⟩, fun ⟨p, ⟨_, hsub⟩, hxp⟩ => hsub x hxp⟩

theorem toGate_and_leaves (p : List String) :
    (PTree.node .and (p.map PTree.leaf)).toGate = some (.node .and (p.map Gate.leaf)) :=
  congrArg (Option.map (Gate.node .and)) (toGateL_map (f := PTree.leaf) (g := Gate.leaf) p fun _ _ => rfl)

theorem toGate_partTree (p : List String) : (partTree p).toGate = some (partGate p) := by
  -- the two definitions match alike: one split serves both
  unfold partTree partGate
  split
  · rfl
  · exact toGate_and_leaves p

theorem noTau_partTree (p : List String) : noTau (partTree p) = true := by
  obtain ⟨a, rfl, h⟩ | h := partTree_cases p <;> rw [h]
  · rfl
  · simp [noTau, noTauL_eq]

theorem toGate_rebuilt (c : List (List String)) : (PTree.node .or (c.map partTree)).toGate = some (rebuilt c) := by
  simp [PTree.toGate, toGateL_map c fun p _ => toGate_partTree p, rebuilt]

theorem noTau_rebuilt (c : List (List String)) : noTau (PTree.node .or (c.map partTree)) = true := by
  simp [noTau, noTauL_eq, noTau_partTree]

/-- the judge admits at the rebuilt gate every non-empty set the cover explains -/
theorem rebuilt_admits {c : List (List String)} {e : List String} (hne : e ≠ [])
    (hexp : ∀ x ∈ e, ∃ p ∈ c, (∀ y ∈ p, y ∈ e) ∧ x ∈ p) : admits (rebuilt c) e = true :=
  sem_admits _ _ (noTau_rebuilt c) (toGate_rebuilt c) e (rebuilt_sem hne hexp)

end O2P.Gate
