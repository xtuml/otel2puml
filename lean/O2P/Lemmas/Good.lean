/-
`GoodS strict F t t'` (`Good` says the same as `GoodS true`: `Good.toS`, `GoodS.toGood`), the relation every pass of the
post-processing preserves, and its congruence `node_congrS` for trees with distinct names.  It rests on `parts_proj` —
below a parallel node the part of `s` a child produces is what `s` shows of the child's labels — so that
(`rel2_sem_congr`) a projection of an observed set onto the node's labels hands every child a projection onto its own.
-/
import O2P.Lemmas.Sem
namespace O2P.Gate

/-- `s` is what some observed set shows of the labels `L` -/
def Proj (F : List (List String)) (L : List String) (s : List String) : Prop :=
  ∃ s0 ∈ F, ∀ x ∈ L, (x ∈ s0 ↔ x ∈ s)

/-- `t'` may stand for `t`: it produces every set `t` produces that is the projection of an observed set onto `t`'s
labels (so the empty set only if some observed set shows none of them), and carries no new label -/
structure Good (F : List (List String)) (t t' : PTree) : Prop where
  sem : ∀ s, Proj F t.labels s → t.sem s → t'.sem s
  lab : ∀ x ∈ t'.labels, x ∈ t.labels
  nd : (NE t.labels).Nodup → (NE t'.labels).Nodup

/-- `Good`, asked for the empty set only when `strict` -/
structure GoodS (strict : Bool) (F : List (List String)) (t t' : PTree) : Prop where
  sem : ∀ s, (s ≠ [] ∨ strict = true) → Proj F t.labels s → t.sem s → t'.sem s
  lab : ∀ x ∈ t'.labels, x ∈ t.labels
  nd : (NE t.labels).Nodup → (NE t'.labels).Nodup

/-- at the top of a tree the set to produce is an observed set itself -/
theorem Proj.of_mem {F : List (List String)} {L s : List String} (hs : s ∈ F) : Proj F L s :=
  ⟨s, hs, fun _ _ => Iff.rfl⟩

/-- onto fewer labels, and of any set that shows the same of them -/
theorem Proj.restrict {F : List (List String)} {L L' s p : List String} (h : Proj F L s) (hL : ∀ x ∈ L', x ∈ L)
    (hag : ∀ x ∈ L', (x ∈ s ↔ x ∈ p)) : Proj F L' p := by
  obtain ⟨s0, hs0, h⟩ := h
  exact ⟨s0, hs0, fun x hx => (h x (hL x hx)).trans (hag x hx)⟩

theorem missAny_of_proj {F : List (List String)} {L : List String} (h : Proj F L []) : missAny F L = true := by
  obtain ⟨s0, hs0, hag⟩ := h
  refine List.any_eq_true.mpr ⟨s0, hs0, List.isEmpty_iff.mpr (interS_eq_nil_iff.mpr fun x hx hxl => ?_)⟩
  cases (hag x hxl).mp hx

theorem Good.toS {F : List (List String)} {t t' : PTree} (h : Good F t t') (strict : Bool) : GoodS strict F t t' :=
  ⟨fun s _ => h.sem s, h.lab, h.nd⟩

theorem GoodS.toGood {F : List (List String)} {t t' : PTree} (h : GoodS true F t t') : Good F t t' :=
  ⟨fun s => h.sem s (Or.inr rfl), h.lab, h.nd⟩

theorem Good.refl (F : List (List String)) (t : PTree) : Good F t t :=
  ⟨fun _ _ h => h, fun _ h => h, fun h => h⟩

theorem GoodS.trans {strict : Bool} {F : List (List String)} {a b c : PTree} (h1 : GoodS strict F a b)
    (h2 : Good F b c) : GoodS strict F a c :=
  ⟨fun s hg hp hs => h2.sem s (hp.restrict h1.lab fun _ _ => Iff.rfl) (h1.sem s hg hp hs),
    fun x hx => h1.lab x (h2.lab x hx), fun h => h2.nd (h1.nd h)⟩

theorem Good.trans {F : List (List String)} {a b c : PTree} (h1 : Good F a b) (h2 : Good F b c) : Good F a c :=
  ((h1.toS true).trans h2).toGood

theorem labelsL_rel_sub {cs cs' : List PTree} (h : Rel2 (fun c c' => ∀ x ∈ c'.labels, x ∈ c.labels) cs cs') :
    ∀ x ∈ PTree.labelsL cs', x ∈ PTree.labelsL cs := fun x hx => by
  obtain ⟨c', hc', hx⟩ := mem_labelsL.mp hx
  obtain ⟨c, hc, h⟩ := h.mem_right c' hc'
  exact mem_labelsL.mpr ⟨c, hc, h x hx⟩

theorem nodup_labels_rel {cs cs' : List PTree}
    (h : Rel2 (fun c c' => (∀ x ∈ c'.labels, x ∈ c.labels) ∧ ((NE c.labels).Nodup → (NE c'.labels).Nodup)) cs cs') :
    (NE (PTree.labelsL cs)).Nodup → (NE (PTree.labelsL cs')).Nodup := by
  induction h with
  | nil => exact id
  | cons hc hcs ih =>
    rw [nodup_labels_cons, nodup_labels_cons]
    refine fun h => ⟨hc.2 h.1, ih h.2.1, fun a ha b hb => ?_⟩
    exact h.2.2 a (mem_NE.mpr ⟨hc.1 a (mem_NE.mp ha).1, (mem_NE.mp ha).2⟩) b
      (mem_NE.mpr ⟨labelsL_rel_sub (hcs.imp And.left) b (mem_NE.mp hb).1, (mem_NE.mp hb).2⟩)

/-- below a parallel node over distinct names, the part of `s` a child produces is what `s` shows of the child's
labels -/
theorem parts_proj {s : List String} (hemp : "" ∉ s) {cs : List PTree} {ps : List (List String)}
    (h : Rel2 PTree.sem cs ps) : (NE (PTree.labelsL cs)).Nodup → (∀ x ∈ ps.flatten, x ∈ s) →
    (∀ x ∈ s, x ∈ PTree.labelsL cs → x ∈ ps.flatten) →
    Rel2 (fun c p => c.sem p ∧ ∀ x ∈ c.labels, (x ∈ s ↔ x ∈ p)) cs ps := by
  induction h with
  | nil => exact fun _ _ _ => .nil
  | @cons c p cs ps h hs ih =>
    intro hnd hsub hcov
    rw [nodup_labels_cons] at hnd
    simp only [labelsL_cons, List.flatten_cons, List.mem_append] at hsub hcov
    -- a name of `s` below `c` and one below the other children are different names
    have hdis : ∀ x ∈ s, x ∈ c.labels → x ∈ PTree.labelsL cs → False := fun x hx h1 h2 =>
      have hne : x ≠ "" := fun e => hemp (e ▸ hx)
      hnd.2.2 x (mem_NE.mpr ⟨h1, hne⟩) x (mem_NE.mpr ⟨h2, hne⟩) rfl
    have hps : ∀ x ∈ ps.flatten, x ∈ PTree.labelsL cs := fun x hx => by
      obtain ⟨q, hq, hxq⟩ := List.mem_flatten.mp hx
      obtain ⟨d, hd, hdq⟩ := hs.mem_right q hq
      exact mem_labelsL.mpr ⟨d, hd, sem_sub hdq x hxq⟩
    refine .cons ⟨h, fun x hx => ⟨fun hxs => ?_, fun hxp => hsub x (Or.inl hxp)⟩⟩
      (ih hnd.2.1 (fun x hx => hsub x (Or.inr hx)) fun x hxs hxl => ?_)
    · exact (hcov x hxs (Or.inl hx)).resolve_right fun hxq => hdis x hxs hx (hps x hxq)
    · exact (hcov x hxs (Or.inr hxl)).resolve_left fun hxp => hdis x hxs (sem_sub h x hxp) hxl

theorem rel2_sem_congr {F : List (List String)} {L s : List String} (hemp : "" ∉ s) (hp : Proj F L s)
    {cs cs' : List PTree} {ps : List (List String)} (hL : ∀ x ∈ PTree.labelsL cs, x ∈ L)
    (hnd : (NE (PTree.labelsL cs)).Nodup) (hg : Rel2 (Good F) cs cs') (hr : Rel2 PTree.sem cs ps)
    (hsub : ∀ x ∈ ps.flatten, x ∈ s) (hcov : ∀ x ∈ s, x ∈ PTree.labelsL cs → x ∈ ps.flatten) :
    Rel2 PTree.sem cs' ps := by
  refine ((parts_proj hemp hr hnd hsub hcov).comp hg).imp ?_
  rintro c' p ⟨c, hc, ⟨hcp, hag⟩, hgc⟩
  exact hgc.sem p (hp.restrict (fun x hx => hL x (mem_labelsL.mpr ⟨c, hc, hx⟩)) hag) hcp

theorem sem_and_congr {F : List (List String)} {L s : List String} (hemp : "" ∉ s) (hp : Proj F L s)
    {cs cs' : List PTree} (hL : ∀ x ∈ PTree.labelsL cs, x ∈ L) (hnd : (NE (PTree.labelsL cs)).Nodup)
    (hg : Rel2 (Good F) cs cs') (h : (PTree.node .and cs).sem s) : (PTree.node .and cs').sem s := by
  obtain ⟨ps, hr, hs⟩ := sem_and.mp h
  exact sem_and.mpr ⟨ps, rel2_sem_congr hemp hp hL hnd hg hr (fun x hx => (hs x).mpr hx) fun x hx _ => (hs x).mp hx, hs⟩

/-- The flag for the children: a choice hands its own set to one child, so its children are asked for the empty set only
if the choice is, and then the choice has a silent alternative or some observed set shows none of its events; the
children of any other node are always asked. -/
theorem node_congrS {F : List (List String)} (hF : ∀ s0 ∈ F, "" ∉ s0) (strict : Bool) (op : POp)
    {cs cs' : List PTree} (hnd : (NE (PTree.labelsL cs)).Nodup)
    (hg : Rel2 (GoodS (op != .xor || strict && (cs.any PTree.isTau || missAny F (PTree.labelsL cs))) F) cs cs') :
    GoodS strict F (.node op cs) (.node op cs') := by
  refine ⟨fun s hgd hp hs => ?_, labelsL_rel_sub (hg.imp GoodS.lab), nodup_labels_rel (hg.imp fun h => ⟨h.lab, h.nd⟩)⟩
  have hemp : "" ∉ s := fun he => by
    obtain ⟨s0, hs0, hag⟩ := hp
    exact hF s0 hs0 ((hag "" (sem_sub hs "" he)).mpr he)
  cases op with
  | xor =>
    obtain ⟨c, hc, hs⟩ := sem_xor.mp hs
    obtain ⟨c', hc', hgc⟩ := hg.mem_left c hc
    refine sem_xor.mpr
      ⟨c', hc', hgc.sem s ?_ (hp.restrict (fun x hx => mem_labelsL.mpr ⟨c, hc, hx⟩) fun _ _ => Iff.rfl) hs⟩
    by_cases hsn : s = []
    · subst hsn
      have hm : missAny F (PTree.labelsL cs) = true := missAny_of_proj hp
      simp [hgd.resolve_left (fun h => h rfl), hm]
    · exact Or.inl hsn
  -- under `and` and `or` the flag in `hg` is `true || _`, which evaluates to the `true` that `GoodS.toGood` expects
  | and => exact sem_and_congr hemp hp (fun _ h => h) hnd (hg.imp GoodS.toGood) hs
  | or =>
    obtain ⟨T, hT, hne, hs⟩ := sem_or.mp hs
    obtain ⟨T', hT', hgT⟩ := hg.sublist_left hT
    exact sem_or.mpr ⟨T', hT', mt hgT.nil_iff.mpr hne, sem_and_congr hemp hp (labelsL_sublist hT).subset
      (nodup_labels_of_sublist hT hnd) (hgT.imp GoodS.toGood) hs⟩
  | other => cases hs

theorem node_congr {F : List (List String)} (hF : ∀ s0 ∈ F, "" ∉ s0) (op : POp) {cs cs' : List PTree}
    (hnd : (NE (PTree.labelsL cs)).Nodup) (hg : Rel2 (Good F) cs cs') : Good F (.node op cs) (.node op cs') :=
  (node_congrS hF true op hnd (hg.imp fun h => h.toS _)).toGood

/-! The congruence for children rewritten by one function `f`, in the terms of `semAny`, `semAll`, `semSome` (the forms
DESIGN.md cites; the proofs use `node_congr`). -/

section congr
variable (F : List (List String)) (f : PTree → PTree) (s : List String) (L : List String)
  (hemp : "" ∉ s) (hproj : ∃ s0 ∈ F, ∀ x ∈ L, (x ∈ s0 ↔ x ∈ s))
include hemp hproj

theorem semAny_map : ∀ (cs : List PTree), (∀ x ∈ PTree.labelsL cs, x ∈ L) → PTree.semAny cs s →
    (∀ c ∈ cs, Good F c (f c)) → PTree.semAny (cs.map f) s := by
  intro cs hL h hg
  have _ := hemp
  obtain ⟨c, hc, h⟩ := semAny_iff.mp h
  exact semAny_iff.mpr ⟨f c, List.mem_map_of_mem hc, (hg c hc).sem s
    (Proj.restrict hproj (fun x hx => hL x (mem_labelsL.mpr ⟨c, hc, hx⟩)) fun _ _ => Iff.rfl) h⟩

theorem semAll_map : ∀ (cs : List PTree) (ps : List (List String)), (∀ x ∈ PTree.labelsL cs, x ∈ L) →
    (NE (PTree.labelsL cs)).Nodup → PTree.semAll cs ps → (∀ x ∈ ps.flatten, x ∈ s) →
    (∀ x ∈ s, x ∈ PTree.labelsL cs → x ∈ ps.flatten) → (∀ c ∈ cs, Good F c (f c)) →
    PTree.semAll (cs.map f) ps :=
  fun _ _ hL hnd h hsub hcov hg => semAll_iff.mpr <|
    rel2_sem_congr hemp hproj hL hnd (Rel2.map_right hg) (semAll_iff.mp h) hsub hcov

theorem semSome_map : ∀ (cs : List PTree) (ps : List (List String)), (∀ x ∈ PTree.labelsL cs, x ∈ L) →
    (NE (PTree.labelsL cs)).Nodup → PTree.semSome cs ps → (∀ x ∈ ps.flatten, x ∈ s) →
    (∀ x ∈ s, x ∈ PTree.labelsL cs → x ∈ ps.flatten) → (∀ c ∈ cs, Good F c (f c)) →
    PTree.semSome (cs.map f) ps := by
  intro cs ps hL hnd h hsub hcov hg
  obtain ⟨T, hT, hr⟩ := semSome_iff.mp h
  have hTL := (labelsL_sublist hT).subset
  exact semSome_iff.mpr ⟨T.map f, hT.map f, rel2_sem_congr hemp hproj (fun x hx => hL x (hTL hx))
    (nodup_labels_of_sublist hT hnd) (Rel2.map_right fun c hc => hg c (hT.subset hc)) hr hsub
    fun x hx hxl => hcov x hx (hTL hxl)⟩
end congr

end O2P.Gate
