/-
Two lists related position by position (core Lean has no `List.Forall₂`), and what carries over from one side to the
other: members, appends, selections (sublists), permutations.
-/
namespace O2P.Gate

inductive Rel2 {α β : Type} (R : α → β → Prop) : List α → List β → Prop where
  | nil : Rel2 R [] []
  | cons {a b as bs} : R a b → Rel2 R as bs → Rel2 R (a :: as) (b :: bs)

namespace Rel2
variable {α β γ : Type} {R : α → β → Prop}

theorem nil_left_iff {bs : List β} : Rel2 R [] bs ↔ bs = [] :=
  ⟨fun h => by cases h; rfl, fun h => h ▸ .nil⟩

theorem cons_left_iff {a : α} {as : List α} {bs : List β} :
    Rel2 R (a :: as) bs ↔ ∃ b bs', bs = b :: bs' ∧ R a b ∧ Rel2 R as bs' :=
  ⟨fun h => by cases h with | cons h hs => exact ⟨_, _, rfl, h, hs⟩, fun ⟨_, _, e, h, hs⟩ => e ▸ .cons h hs⟩

theorem nil_iff : ∀ {as : List α} {bs : List β}, Rel2 R as bs → (as = [] ↔ bs = [])
  | _, _, .nil => ⟨fun _ => rfl, fun _ => rfl⟩
  | _, _, .cons _ _ => ⟨fun h => (by cases h), fun h => (by cases h)⟩

theorem length_eq {as : List α} {bs : List β} (h : Rel2 R as bs) : as.length = bs.length := by
  induction h with
  | nil => rfl
  | cons _ _ ih => exact congrArg (· + 1) ih

theorem imp_mem {S : α → β → Prop} {as : List α} {bs : List β} (hr : Rel2 R as bs) :
    (∀ a ∈ as, ∀ b, R a b → S a b) → Rel2 S as bs := by
  induction hr with
  | nil => exact fun _ => .nil
  | cons h _ ih => exact fun f => .cons (f _ List.mem_cons_self _ h) (ih fun a ha => f a (List.mem_cons_of_mem _ ha))

theorem imp {S : α → β → Prop} (h : ∀ {a b}, R a b → S a b) {as : List α} {bs : List β} (hr : Rel2 R as bs) :
    Rel2 S as bs :=
  hr.imp_mem fun _ _ _ => h

theorem flip {as : List α} {bs : List β} (hr : Rel2 R as bs) : Rel2 (fun b a => R a b) bs as := by
  induction hr with
  | nil => exact .nil
  | cons h _ ih => exact .cons h ih

theorem refl {R : α → α → Prop} (h : ∀ a, R a a) : ∀ (as : List α), Rel2 R as as
  | [] => .nil
  | a :: as => .cons (h a) (refl h as)

theorem set_right {R : α → α → Prop} (hr : ∀ a, R a a) {b : α} : ∀ {as : List α} {i : Nat} {a : α},
    as[i]? = some a → R a b → Rel2 R as (as.set i b)
  | _ :: as, 0, _, h, hab => by
    cases h
    exact .cons hab (refl hr as)
  | d :: _, i + 1, _, h, hab => .cons (hr d) (set_right hr (i := i) h hab)

theorem map_right {f : α → β} : ∀ {as : List α}, (∀ a ∈ as, R a (f a)) → Rel2 R as (as.map f)
  | [], _ => .nil
  | a :: _, h => .cons (h a List.mem_cons_self) (map_right fun b hb => h b (List.mem_cons_of_mem _ hb))

theorem map_left_iff {f : γ → α} : ∀ {cs : List γ} {bs : List β},
    Rel2 R (cs.map f) bs ↔ Rel2 (fun c b => R (f c) b) cs bs
  | [], _ => by simp [nil_left_iff]
  | c :: cs, _ => by simp only [List.map_cons, cons_left_iff, map_left_iff (cs := cs)]

theorem map_map {f : γ → α} {g : γ → β} {cs : List γ} (h : ∀ c ∈ cs, R (f c) (g c)) : Rel2 R (cs.map f) (cs.map g) :=
  map_left_iff.mpr (map_right h)

theorem mem_left {as : List α} {bs : List β} (hr : Rel2 R as bs) : ∀ a ∈ as, ∃ b ∈ bs, R a b := by
  induction hr with
  | nil => exact fun _ h => nomatch h
  | cons h _ ih =>
    intro a ha
    rcases List.mem_cons.mp ha with rfl | ha
    · exact ⟨_, List.mem_cons_self, h⟩
    · obtain ⟨b, hb, hr⟩ := ih a ha
      exact ⟨b, List.mem_cons_of_mem _ hb, hr⟩

theorem mem_right {as : List α} {bs : List β} (hr : Rel2 R as bs) : ∀ b ∈ bs, ∃ a ∈ as, R a b :=
  hr.flip.mem_left

theorem append {as as' : List α} {bs bs' : List β} (h : Rel2 R as bs) (h' : Rel2 R as' bs') :
    Rel2 R (as ++ as') (bs ++ bs') := by
  induction h with
  | nil => exact h'
  | cons h _ ih => exact .cons h ih

theorem of_append_left : ∀ {as as' : List α} {bs : List β}, Rel2 R (as ++ as') bs →
    ∃ b1 b2, bs = b1 ++ b2 ∧ Rel2 R as b1 ∧ Rel2 R as' b2
  | [], _, bs, h => ⟨[], bs, rfl, .nil, h⟩
  | _ :: _, _, _, .cons h hs => by
    obtain ⟨b1, b2, rfl, h1, h2⟩ := of_append_left hs
    exact ⟨_ :: b1, b2, rfl, .cons h h1, h2⟩

theorem sublist_left {as : List α} {bs : List β} (h : Rel2 R as bs) : ∀ {T : List α}, T.Sublist as →
    ∃ T', T'.Sublist bs ∧ Rel2 R T T' := by
  induction h with
  | nil => exact fun hT => ⟨[], .slnil, List.sublist_nil.mp hT ▸ .nil⟩
  | cons h _ ih =>
    intro T hT
    cases hT with
    | cons _ hT =>
      obtain ⟨T', h1, h2⟩ := ih hT
      exact ⟨T', h1.cons _, h2⟩
    | cons_cons _ hT =>
      obtain ⟨T', h1, h2⟩ := ih hT
      exact ⟨_ :: T', h1.cons_cons _, .cons h h2⟩

theorem perm_left {as as' : List α} (p : as.Perm as') : ∀ {bs : List β}, Rel2 R as bs →
    ∃ bs', bs.Perm bs' ∧ Rel2 R as' bs' := by
  induction p with
  | nil => exact fun h => ⟨_, .rfl, h⟩
  | cons a _ ih =>
    intro bs h
    cases h with
    | cons h hs =>
      obtain ⟨bs', p', h'⟩ := ih hs
      exact ⟨_ :: bs', p'.cons _, .cons h h'⟩
  | swap a b l =>
    intro bs h
    cases h with
    | cons h1 hs => cases hs with
      | cons h2 hs => exact ⟨_, .swap .., .cons h2 (.cons h1 hs)⟩
  | trans _ _ ih1 ih2 =>
    intro bs h
    obtain ⟨b1, p1, h1⟩ := ih1 h
    obtain ⟨b2, p2, h2⟩ := ih2 h1
    exact ⟨b2, p1.trans p2, h2⟩

theorem comp {S : α → γ → Prop} {as : List α} {bs : List β} (h : Rel2 R as bs) : ∀ {cs : List γ}, Rel2 S as cs →
    Rel2 (fun c b => ∃ a ∈ as, R a b ∧ S a c) cs bs := by
  induction h with
  | nil => exact fun k => by cases k; exact .nil
  | cons h _ ih =>
    intro cs k
    cases k with
    | cons k ks =>
      exact .cons ⟨_, List.mem_cons_self, h, k⟩ ((ih ks).imp fun ⟨a, ha, x⟩ => ⟨a, List.mem_cons_of_mem _ ha, x⟩)

theorem exists_right {S : α → γ → Prop} {Q : β → γ → Prop} {as : List α} {bs : List β} (h : Rel2 R as bs) :
    (∀ a ∈ as, ∀ b, R a b → ∃ c, S a c ∧ Q b c) → ∃ cs, Rel2 S as cs ∧ Rel2 Q bs cs := by
  induction h with
  | nil => exact fun _ => ⟨[], .nil, .nil⟩
  | cons h _ ih =>
    intro f
    obtain ⟨c, h1, h2⟩ := f _ List.mem_cons_self _ h
    obtain ⟨cs, k1, k2⟩ := ih fun a ha => f a (List.mem_cons_of_mem _ ha)
    exact ⟨c :: cs, .cons h1 k1, .cons h2 k2⟩

end Rel2

end O2P.Gate
