import O2P.Model.Writer
/-
Every line `write_uml_blocks` emits is in the vocabulary `OkLine`: what `C05.writer_vocabulary` rests on.
-/
namespace O2P.Writer

mutual
def PGraph.evNames : PGraph → List String
  | .mk ns _ => evNamesL ns
def PNode.evNames : PNode → List String
  | .ev n _ => [n]
  | .sub _ g _ => g.evNames
  | _ => []
def evNamesL : List PNode → List String
  | [] => []
  | n :: ns => n.evNames ++ evNamesL ns
end

theorem evNamesL_mem {n : PNode} {ns : List PNode} (h : n ∈ ns) : n.evNames ⊆ evNamesL ns := by
  induction ns with
  | nil => cases h
  | cons m ms ih =>
    rw [evNamesL]
    rcases List.mem_cons.mp h with rfl | h'
    · exact List.subset_append_left _ _
    · exact List.subset_append_of_subset_right _ (ih h')

theorem getD_names (g : PGraph) (i : Nat) : (g.nodes.getD i default).evNames ⊆ g.evNames := by
  cases g with
  | mk ns adj =>
    rw [PGraph.nodes, PGraph.evNames, List.getD_eq_getElem?_getD]
    cases h : ns[i]? with
    | none => simp [default, PNode.evNames]
    | some n => exact evNamesL_mem (List.mem_of_getElem? h)

/-- the fixed words of the dialect the writer can emit -/
def fixedWords : List String :=
  (O2P.Gen.operatorTable.flatMap fun e => e.2.1) ++ ["detach", "break", "repeat", "repeat while"]

/-- a line of the vocabulary over the event names `names` -/
def OkLine (names : List String) (l : String) : Prop :=
  ∃ (k : Int) (body : String), l = spaces k ++ body ∧ (body ∈ fixedWords ∨ ∃ n ∈ names, body = ":" ++ n ++ ";")

theorem OkLine.mono {a b : List String} (h : a ⊆ b) {l : String} : OkLine a l → OkLine b l
  | ⟨k, body, e, hb⟩ => ⟨k, body, e, hb.imp_right fun ⟨n, hn, e2⟩ => ⟨n, h hn, e2⟩⟩

theorem okLine_fixed {names : List String} {k : Int} {w : String} (h : w ∈ fixedWords) :
    OkLine names (spaces k ++ w) := ⟨k, w, rfl, Or.inl h⟩

theorem okLine_word {names : List String} {k : Int} {w : String}
    (h : w ∈ ["detach", "break", "repeat", "repeat while"]) : OkLine names (spaces k ++ w) :=
  okLine_fixed (List.mem_append_right _ h)

theorem operLines_ok {names : List String} {pos : Pos} {op : Op4} {indent tab : Int} {ls : List String} {d : Int}
    (h : operLines pos op indent tab = some (ls, d)) : ∀ l ∈ ls, OkLine names l := by
  unfold operLines at h
  split at h
  · cases h
  · rename_i strs diff un ht
    simp only [Option.some.injEq, Prod.mk.injEq] at h
    obtain ⟨rfl, _⟩ := h
    intro l hl
    obtain ⟨⟨s, i⟩, hsi, rfl⟩ := List.mem_map.mp hl
    have hs : s ∈ strs := (List.mem_zipIdx hsi).2.2 ▸ List.getElem_mem _
    obtain ⟨e, hf, he⟩ := Option.map_eq_some_iff.mp ht
    exact okLine_fixed (List.mem_append_left _ (List.mem_flatMap.mpr ⟨e, List.mem_of_find?_eq_some hf, he ▸ hs⟩))

theorem itemsLinesWith_ok {P : String → Prop} {f : Item → Int → Option (List String × Int)} {tab : Int}
    (hf : ∀ it indent ls d, f it indent = some (ls, d) → ∀ l ∈ ls, P l) :
    ∀ (items : List Item) (indent : Int) (ls : List String), itemsLinesWith f tab items indent = some ls → ∀ l ∈ ls, P l
  | [], _, ls, h => by
    obtain rfl : [] = ls := Option.some.inj h
    nofun
  | it :: rest, indent, ls, h => by
    rw [itemsLinesWith] at h
    split at h
    · cases h
    · rename_i ls1 diff h1
      split at h
      · cases h
      · rename_i more h2
        obtain rfl : ls1 ++ more = ls := Option.some.inj h
        exact List.forall_mem_append.mpr ⟨hf it indent ls1 diff h1, itemsLinesWith_ok hf rest _ more h2⟩

/-- the `break` that may follow a node -/
theorem break_ok {names : List String} {indent : Int} {brk : Bool} :
    ∀ l ∈ (if brk then [spaces indent ++ "break"] else []), OkLine names l := by
  cases brk
  · nofun
  · exact List.forall_mem_singleton.mpr (okLine_word (by simp))

mutual
theorem graphLines_ok : ∀ (fuel : Nat) (g : PGraph) (indent tab : Int) (ls : List String),
    graphLines fuel g indent tab = some ls → ∀ l ∈ ls, OkLine g.evNames l
  | 0, _, _, _, _, h => nomatch h
  | fuel + 1, g, indent, tab, ls, h => by
    simp only [graphLines] at h
    split at h
    · obtain rfl : [] = ls := Option.some.inj h
      nofun
    · split at h
      · cases h
      · obtain rfl : [] = ls := Option.some.inj h
        nofun
      · exact itemsLinesWith_ok (fun it ind => itemLines_ok fuel g it ind tab) _ _ _ h
theorem itemLines_ok : ∀ (fuel : Nat) (g : PGraph) (it : Item) (indent tab : Int) (ls : List String) (d : Int),
    itemLines fuel g it indent tab = some (ls, d) → ∀ l ∈ ls, OkLine g.evNames l
  | _, _, .path op, _, _, _, _, h => operLines_ok (by simpa only [itemLines] using h)
  | fuel, g, .node i, indent, tab, ls, d, h => by
    simp only [itemLines] at h
    split at h
    next => -- `.kill`
      obtain ⟨rfl, _⟩ := Prod.mk.inj (Option.some.inj h)
      exact List.forall_mem_singleton.mpr (okLine_word (by simp))
    next => exact operLines_ok h -- `.oper`
    next name brk hn => -- `.ev name brk`
      obtain ⟨rfl, _⟩ := Prod.mk.inj (Option.some.inj h)
      have hname : name ∈ g.evNames := getD_names g i (by rw [hn]; simp [PNode.evNames])
      exact List.forall_mem_append.mpr ⟨List.forall_mem_singleton.mpr
        ⟨indent, ":" ++ name ++ ";", by simp only [String.append_assoc], .inr ⟨name, hname, rfl⟩⟩, break_ok⟩
    next isLoop sg brk hn => -- `.sub isLoop sg brk`
      have hsub : sg.evNames ⊆ g.evNames := fun x hx => getD_names g i (by rw [hn]; simpa [PNode.evNames] using hx)
      match fuel, h with
      | 0, h => cases h
      | f + 1, h =>
        simp only at h
        split at h
        · cases h
        · rename_i inner hin
          obtain ⟨rfl, _⟩ := Prod.mk.inj (Option.some.inj h)
          refine List.forall_mem_append.mpr ⟨?_, break_ok⟩
          have hinner : ∀ l ∈ inner, OkLine g.evNames l := fun l hl => by
            cases isLoop <;> exact (graphLines_ok f sg _ _ _ hin l hl).mono hsub
          cases isLoop with
          | false => exact hinner
          | true =>
            rw [if_pos rfl]
            exact List.forall_mem_append.mpr ⟨List.forall_mem_append.mpr
              ⟨List.forall_mem_singleton.mpr (okLine_word (by simp)), hinner⟩,
              List.forall_mem_singleton.mpr (okLine_word (by simp))⟩
end

end O2P.Writer
