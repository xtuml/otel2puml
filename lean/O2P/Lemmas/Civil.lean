import O2P.Model.Time
/-!
Hinnant's `days_from_civil` undoes `civil_from_days` on every day, with month and day in range (the
year for the days below `maxDay`).  Both count in a calendar whose years begin on 1 March, so that the leap day comes last:
`daysBeforeYear y` days lie before year `y` of that calendar and `(153 * mp + 2) / 5` days before
its month `mp` (March = 0).
-/
namespace O2P.Time

theorem isLeap_iff (y : Nat) : isLeap y = true ↔ (y % 4 = 0 ∧ y % 100 ≠ 0) ∨ y % 400 = 0 := by
  simp only [isLeap, Bool.or_eq_true, Bool.and_eq_true, beq_iff_eq, bne_iff_ne]

theorem isLeap_add_mul (y k : Nat) : isLeap (y + k * 400) = isLeap y := by
  have h4 : (y + k * 100 * 4) % 4 = y % 4 := Nat.add_mul_mod_self_right ..
  have h100 : (y + k * 4 * 100) % 100 = y % 100 := Nat.add_mul_mod_self_right ..
  rw [Nat.mul_assoc] at h4 h100
  simp only [isLeap, h4, h100, Nat.add_mul_mod_self_right]

theorem daysInMonth_le (y m : Nat) : daysInMonth y m ≤ 31 := by
  unfold daysInMonth
  split
  · split <;> decide
  · split <;> decide

theorem monthShift {mp m : Nat} (h : mp ≤ 11) (hm : m = if mp < 10 then mp + 3 else mp - 9) :
    1 ≤ m ∧ m ≤ 12 ∧ (m ≤ 2 ↔ 10 ≤ mp) ∧ (if m > 2 then m - 3 else m + 9) = mp := by
  subst hm
  revert mp
  decide

/-- The month lengths are the steps of `(153 * mp + 2) / 5`; February, the last month, is cut short
by the end of the year instead. -/
theorem daysInMonth_shift (y : Nat) {mp m : Nat} (h : mp ≤ 11)
    (hm : m = if mp < 10 then mp + 3 else mp - 9) :
    daysInMonth y m =
      if mp = 11 then (if isLeap y then 29 else 28)
      else (153 * (mp + 1) + 2) / 5 - (153 * mp + 2) / 5 := by
  subst hm
  exact match mp, h with
    | 0, _ | 1, _ | 2, _ | 3, _ | 4, _ | 5, _ | 6, _ | 7, _ | 8, _ | 9, _ | 10, _ | 11, _ => rfl
    | _ + 12, h => absurd h (by lia)

theorem monthOfYear {doy mp d : Nat} (h : doy ≤ 365) (hmp : mp = (5 * doy + 2) / 153)
    (hd : d = doy - (153 * mp + 2) / 5 + 1) :
    mp ≤ 11 ∧ 1 ≤ d ∧ (153 * mp + 2) / 5 + d - 1 = doy ∧
      d ≤ (153 * (mp + 1) + 2) / 5 - (153 * mp + 2) / 5 := by
  lia

/-- days from 1 March of year 0 to 1 March of year `y` -/
def daysBeforeYear (y : Nat) : Nat := 365 * y + y / 4 - y / 100 + y / 400

/-- 400 years are 146097 days. -/
theorem daysBeforeYear_era (era : Nat) {yoe : Nat} (h : yoe < 400) :
    daysBeforeYear (yoe + era * 400) = 146097 * era + (365 * yoe + yoe / 4 - yoe / 100) := by
  unfold daysBeforeYear
  lia

theorem daysFromCivil_shift (y m d : Nat) :
    daysFromCivil (if m ≤ 2 then y + 1 else y) m d =
      daysBeforeYear y + ((153 * (if m > 2 then m - 3 else m + 9) + 2) / 5 + d - 1) - 719468 := by
  have era := daysBeforeYear_era (y / 400) (Nat.mod_lt y (by decide : 0 < 400))
  rw [Nat.mod_add_div'] at era
  have hy :
      (if m ≤ 2 then (if m ≤ 2 then y + 1 else y) - 1 else if m ≤ 2 then y + 1 else y) = y := by
    split <;> rfl
  unfold daysFromCivil
  simp only [hy]
  -- both sides: days before the era + days before the year of the era + day of the year
  rw [era, Nat.mul_comm (y / 400), Nat.mul_comm (y % 400), Nat.add_assoc]

/-- Hinnant's year of day `doe` in century `c` of an era.  With the `c` leap days the centuries
before have dropped put back, `doe + c` counts days in a calendar with a leap year every fourth
year, where day `t` lies in year `(4 * t + 3) / 1461`. -/
theorem hinnantYear {doe c : Nat} (hc : c ≤ 3) (h1 : 36524 * c ≤ doe) (h2 : doe < 36524 * (c + 1)) :
    (doe - doe / 1460 + c) / 365 = (4 * (doe + c) + 3) / 1461 := by
  lia

theorem julianYear {t y : Nat} (hy : y = (4 * t + 3) / 1461) :
    365 * y + y / 4 ≤ t ∧ t ≤ 365 * y + y / 4 + 365 ∧
      (t = 365 * y + y / 4 + 365 → (y + 1) % 4 = 0) := by
  lia

theorem yearOfCentury {doe c yoe doy : Nat} (hc : c ≤ 3) (h1 : 36524 * c ≤ doe)
    (h2 : doe < 36524 * (c + 1)) (hy : yoe = (doe - doe / 1460 + c) / 365)
    (hd : doy = doe - (365 * yoe + yoe / 4 - yoe / 100)) :
    yoe < 400 ∧ doe = 365 * yoe + yoe / 4 - yoe / 100 + doy ∧ doy ≤ 365 ∧
      (doy = 365 → isLeap (yoe + 1) = true) := by
  rw [hinnantYear hc h1 h2] at hy
  obtain ⟨lo, hi, leap⟩ := julianYear hy
  have hr : 100 * c ≤ yoe ∧ yoe ≤ 100 * c + 99 := by lia
  clear hy
  have e : yoe / 100 = c := by lia
  -- a 366th day of the century's last year would be day `36524 * (c + 1)`
  have last : doe + c = 365 * yoe + yoe / 4 + 365 → (yoe + 1) % 100 ≠ 0 := by lia
  have hcs : c ≤ 365 * yoe + yoe / 4 := by lia
  rw [e] at hd ⊢
  clear h1 h2 e
  generalize 365 * yoe + yoe / 4 = s at *
  have ⟨h400, hdoe, hdoy, h366⟩ :
      yoe < 400 ∧ doe = s - c + doy ∧ doy ≤ 365 ∧ (doy = 365 → doe + c = s + 365) := by
    lia
  exact ⟨h400, hdoe, hdoy, fun h => (isLeap_iff _).2 (.inl ⟨leap (h366 h), last (h366 h)⟩)⟩

/-- The last day of an era is the leap day of its year 400; the others lie in centuries 0 to 3. -/
theorem yearOfEra {doe yoe doy : Nat} (h : doe < 146097)
    (hy : yoe = (doe - doe / 1460 + doe / 36524 - doe / 146096) / 365)
    (hd : doy = doe - (365 * yoe + yoe / 4 - yoe / 100)) :
    yoe < 400 ∧ doe = 365 * yoe + yoe / 4 - yoe / 100 + doy ∧ doy ≤ 365 ∧
      (doy = 365 → isLeap (yoe + 1) = true) := by
  by_cases hl : doe = 146096
  · subst hl hy hd; decide
  · have hlt : doe < 36524 * 4 := Nat.lt_of_le_of_ne (Nat.le_of_lt_succ h) hl
    rw [Nat.div_eq_of_lt hlt, Nat.sub_zero] at hy
    exact yearOfCentury (Nat.le_of_lt_succ (Nat.div_lt_of_lt_mul hlt)) (Nat.mul_div_le ..)
      (Nat.lt_mul_div_succ _ (by decide)) hy hd

theorem dayOfYear {z era doe yoe doy : Nat} (hz : z = 146097 * era + doe) (h : doe < 146097)
    (hy : yoe = (doe - doe / 1460 + doe / 36524 - doe / 146096) / 365)
    (hd : doy = doe - (365 * yoe + yoe / 4 - yoe / 100)) :
    z = daysBeforeYear (yoe + era * 400) + doy ∧ doy ≤ 365 ∧
      (doy = 365 → isLeap (yoe + era * 400 + 1) = true) := by
  obtain ⟨h1, h2, h3, h4⟩ := yearOfEra h hy hd
  rw [daysBeforeYear_era era h1, Nat.add_right_comm yoe, isLeap_add_mul, Nat.add_assoc, ← h2]
  exact ⟨hz, h3, h4⟩

/-- Day `n` is day `doy` of the year `y` that begins on 1 March, day 365 being a 29 February. -/
theorem civilFromDays_eq (n : Nat) :
    ∃ y doy mp m : Nat,
      n + 719468 = daysBeforeYear y + doy ∧
      doy ≤ 365 ∧ (doy = 365 → isLeap (y + 1) = true) ∧ mp = (5 * doy + 2) / 153 ∧
      m = (if mp < 10 then mp + 3 else mp - 9) ∧
      civilFromDays n = (if m ≤ 2 then y + 1 else y, m, doy - (153 * mp + 2) / 5 + 1) := by
  obtain ⟨a, b, c⟩ := dayOfYear (Nat.div_add_mod (n + 719468) 146097).symm
    (Nat.mod_lt _ (by decide)) rfl rfl
  -- witnesses: the `let`s `y`, `doy`, `mp`, `m` of `civilFromDays`; the last `rfl` unfolds that definition
  exact ⟨_, _, _, _, a, b, c, rfl, rfl, rfl⟩

theorem daysFromCivil_civilFromDays (n : Nat) :
    daysFromCivil (civilFromDays n).1 (civilFromDays n).2.1 (civilFromDays n).2.2 = n := by
  obtain ⟨y, doy, mp, m, hn, hdoy, -, hmp, hm, e⟩ := civilFromDays_eq n
  obtain ⟨h11, -, hd, -⟩ := monthOfYear hdoy hmp rfl
  rw [e, daysFromCivil_shift, (monthShift h11 hm).2.2.2, hd, ← hn]
  exact Nat.add_sub_cancel ..

theorem civilFromDays_month (n : Nat) :
    1 ≤ (civilFromDays n).2.1 ∧ (civilFromDays n).2.1 ≤ 12 := by
  obtain ⟨y, doy, mp, m, -, hdoy, -, hmp, hm, e⟩ := civilFromDays_eq n
  obtain ⟨h1, h12, -⟩ := monthShift (monthOfYear hdoy hmp rfl).1 hm
  rw [e]
  exact ⟨h1, h12⟩

theorem civilFromDays_day (n : Nat) :
    1 ≤ (civilFromDays n).2.2 ∧
      (civilFromDays n).2.2 ≤ daysInMonth (civilFromDays n).1 (civilFromDays n).2.1 := by
  obtain ⟨y, doy, mp, m, -, hdoy, hleap, hmp, hm, e⟩ := civilFromDays_eq n
  obtain ⟨h11, h1, -, hd⟩ := monthOfYear hdoy hmp rfl
  obtain ⟨-, -, hm2, -⟩ := monthShift h11 hm
  simp only [e]
  rw [daysInMonth_shift _ h11 hm]
  refine ⟨h1, ?_⟩
  by_cases hf : mp = 11
  · -- February of year `y + 1`, whose day `doy - 336` is the 29th only if `doy = 365`
    subst hf
    rw [if_pos rfl, if_pos (hm2.2 (by decide))]
    split
    · lia
    · have := mt hleap ‹_›; lia
  · rw [if_neg hf]; exact hd

/-- days from 1970-01-01 to 2101-01-01; the instants of the property lie before -/
def maxDay : Nat := 47847

/-- Day 0 is day 306 of the March year 1969, and day `maxDay` day 306 of 2100. -/
theorem civilFromDays_year {n : Nat} (h : n < maxDay) :
    1970 ≤ (civilFromDays n).1 ∧ (civilFromDays n).1 ≤ 2100 := by
  obtain ⟨y, doy, mp, m, hn, hdoy, -, hmp, hm, e⟩ := civilFromDays_eq n
  obtain ⟨-, -, hm2, -⟩ := monthShift (monthOfYear hdoy hmp rfl).1 hm
  have h306 : m ≤ 2 ↔ 306 ≤ doy := hm2.trans (by lia)
  rw [e]
  clear e hm hm2 hmp
  unfold maxDay at h
  unfold daysBeforeYear at hn
  split <;> lia

end O2P.Time
