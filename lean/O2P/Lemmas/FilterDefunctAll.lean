/-
The defunct-OR filter over the whole tree (`filter_defunct_or_gates` = `filterDefunct`): the filtered tree stands for
the tree it was computed from, since splicing an OR gate into its parent OR gate preserves `PTree.sem` (`flatten_sem`).
The Python tests a parent pointer that the OR inference can leave stale, and then keeps an OR below an OR where the model
splices (DESIGN.md §6); by `flatten_sem` the two trees have the same sets.
-/
import O2P.Lemmas.Good
namespace O2P.Gate

mutual
theorem beq_eq : ∀ (a b : PTree), a.beq b = true → a = b
  | .leaf a, .leaf b, h => by simp only [PTree.beq, beq_iff_eq] at h; rw [h]
  | .tau, .tau, _ => rfl
  | .node o1 c1, .node o2 c2, h => by
    simp only [PTree.beq, Bool.and_eq_true, beq_iff_eq] at h
    rw [h.1, beqL_eq c1 c2 h.2]
  | .leaf _, .tau, h | .leaf _, .node _ _, h | .tau, .leaf _, h | .tau, .node _ _, h | .node _ _, .leaf _, h
  | .node _ _, .tau, h => by simp [PTree.beq] at h
theorem beqL_eq : ∀ (a b : List PTree), PTree.beqL a b = true → a = b
  | [], [], _ => rfl
  | x :: xs, y :: ys, h => by
    simp only [PTree.beqL, Bool.and_eq_true] at h
    rw [beq_eq x y h.1, beqL_eq xs ys h.2]
  | [], _ :: _, h | _ :: _, [], h => by simp [PTree.beqL] at h
end

mutual
theorem beq_refl : ∀ (a : PTree), a.beq a = true
  | .leaf a => by simp [PTree.beq]
  | .tau => rfl
  | .node o c => by simp [PTree.beq, beqL_refl c]
theorem beqL_refl : ∀ (a : List PTree), PTree.beqL a a = true
  | [] => rfl
  | x :: xs => by simp [PTree.beqL, beq_refl x, beqL_refl xs]
end

theorem removeFirst_split (x : PTree) : ∀ (cs : List PTree), x ∈ cs →
    ∃ l1 l2, cs = l1 ++ x :: l2 ∧ removeFirst x cs = l1 ++ l2
  | y :: ys, h => by
    simp only [removeFirst]
    by_cases hb : y.beq x = true
    · cases beq_eq y x hb
      exact ⟨[], ys, rfl, by simp [hb]⟩
    · have hx : x ∈ ys := (List.mem_cons.mp h).resolve_left fun e => hb (e ▸ beq_refl x)
      obtain ⟨l1, l2, e1, e2⟩ := removeFirst_split x ys hx
      exact ⟨y :: l1, l2, by rw [e1]; rfl, by simp only [hb, Bool.false_eq_true, if_false, e2, List.cons_append]⟩

/-- `semSome` over an append splits; no proof here needs it (`flatten_sem` splits the sublist and the relation itself) -/
theorem semSome_split : ∀ (a b : List PTree) (ps : List (List String)), PTree.semSome (a ++ b) ps →
    ∃ pa pb, ps = pa ++ pb ∧ PTree.semSome a pa ∧ PTree.semSome b pb := by
  intro a b ps h
  obtain ⟨T, hT, hr⟩ := semSome_iff.mp h
  obtain ⟨T1, T2, rfl, h1, h2⟩ := List.sublist_append_iff.mp hT
  obtain ⟨pa, pb, rfl, r1, r2⟩ := hr.of_append_left
  exact ⟨pa, pb, rfl, semSome_iff.mpr ⟨T1, h1, r1⟩, semSome_iff.mpr ⟨T2, h2, r2⟩⟩

theorem flatten_sem (l1 l2 gcs : List PTree) (s : List String)
    (h : (PTree.node .or (l1 ++ .node .or gcs :: l2)).sem s) : (PTree.node .or (l1 ++ l2 ++ gcs)).sem s := by
  obtain ⟨T, hT, hne, h⟩ := sem_or.mp h
  obtain ⟨ps, hr, hs⟩ := sem_and.mp h
  obtain ⟨T1, T2, rfl, h1, h2⟩ := List.sublist_append_iff.mp hT
  cases h2 with
  | cons _ h2 =>
    exact sem_or.mpr ⟨T1 ++ T2, (h1.append h2).trans (List.sublist_append_left ..), hne, sem_and.mpr ⟨ps, hr, hs⟩⟩
  | cons_cons _ h2 =>
    -- the inner gate is selected: its own selection takes its place
    obtain ⟨p1, _, rfl, r1, r2⟩ := hr.of_append_left
    cases r2 with
    | cons hp r2 =>
      obtain ⟨G, hG, hGne, hp⟩ := sem_or.mp hp
      obtain ⟨qs, hq, hpq⟩ := sem_and.mp hp
      refine sem_or.mpr ⟨_, (h1.append h2).append hG, by simp [hGne],
        sem_and.mpr ⟨_, (r1.append r2).append hq, fun x => (hs x).trans ?_⟩⟩
      simp only [List.flatten_append, List.flatten_cons, List.mem_append, hpq x, or_assoc, or_comm]

theorem flatten_good (F : List (List String)) (l1 l2 gcs : List PTree) :
    Good F (.node .or (l1 ++ .node .or gcs :: l2)) (.node .or (l1 ++ l2 ++ gcs)) := by
  refine ⟨fun s _ h => flatten_sem l1 l2 gcs s h, fun x hx => ?_, fun h => ?_⟩
  · simpa only [labels_node, labelsL_append, labelsL_cons, List.mem_append, or_assoc, or_comm, or_left_comm] using hx
  · simp only [labels_node, labelsL_append, labelsL_cons] at h ⊢
    refine List.Perm.nodup (List.Perm.filter _ ?_) h
    rw [List.append_assoc]
    exact List.Perm.append_left _ List.perm_append_comm

theorem opOf_eq_some {t : PTree} {op : POp} (h : t.opOf = some op) : ∃ cs, t = .node op cs := by
  cases t with
  | node op' cs => cases h; exact ⟨cs, rfl⟩
  | _ => cases h

theorem filterLoop_none {fuel : Nat} {pop : POp} {i : Nat} {cs : List PTree} (h : cs[i]? = none) :
    filterLoop (fuel + 1) pop i cs = cs := by
  rw [filterLoop, h]

theorem filterLoop_some {fuel : Nat} {pop : POp} {i : Nat} {cs : List PTree} {c c' : PTree} (h : cs[i]? = some c)
    (hc' : filterDefunct fuel c = c') :
    filterLoop (fuel + 1) pop i cs =
      if c'.opOf == some .or && pop == .or then
        filterLoop fuel pop (i + 1) (removeFirst c' (cs.set i c') ++ c'.children)
      else filterLoop fuel pop (i + 1) (cs.set i c') := by
  subst hc'
  rw [filterLoop, h]

mutual
theorem filterDefunct_good (F : List (List String)) (hF : ∀ s0 ∈ F, "" ∉ s0) : ∀ (fuel : Nat) (t : PTree),
    (NE t.labels).Nodup → Good F t (filterDefunct fuel t)
  | fuel + 1, .node op cs, hnd => filterLoop_good F hF fuel op 0 cs hnd
  | 0, t, _ | _ + 1, .leaf _, _ | _ + 1, .tau, _ => by simpa only [filterDefunct] using Good.refl F _
theorem filterLoop_good (F : List (List String)) (hF : ∀ s0 ∈ F, "" ∉ s0) : ∀ (fuel : Nat) (pop : POp) (i : Nat)
    (cs : List PTree), (NE (PTree.labelsL cs)).Nodup → Good F (.node pop cs) (.node pop (filterLoop fuel pop i cs))
  | 0, _, _, _, _ => Good.refl F _
  | fuel + 1, pop, i, cs, hnd => by
    cases hi : cs[i]? with
    | none =>
      rw [filterLoop_none hi]
      exact Good.refl F _
    | some c =>
      rw [filterLoop_some hi rfl]
      -- the child at the position is filtered and put back …
      have hset : Good F (.node pop cs) (.node pop (cs.set i (filterDefunct fuel c))) :=
        node_congr hF pop hnd (Rel2.set_right (Good.refl F) hi
          (filterDefunct_good F hF fuel c (nodup_labels_child hnd (List.mem_of_getElem? hi))))
      have hnd1 := hset.nd hnd
      split
      next hcond =>
        -- … and, an OR gate below an OR gate, replaced by its children, appended at the end
        simp only [Bool.and_eq_true, beq_iff_eq] at hcond
        obtain ⟨gcs, hc'⟩ := opOf_eq_some hcond.1
        cases hcond.2
        rw [hc'] at hset hnd1 ⊢
        obtain ⟨l1, l2, e1, e2⟩ :=
          removeFirst_split _ _ (List.mem_set (List.getElem?_eq_some_iff.mp hi).1 (.node .or gcs))
        have hflat := flatten_good F l1 l2 gcs
        rw [← e1] at hflat
        rw [PTree.children, e2]
        exact (hset.trans hflat).trans (filterLoop_good F hF fuel .or (i + 1) _ (hflat.nd hnd1))
      next => exact hset.trans (filterLoop_good F hF fuel pop (i + 1) _ hnd1)
end

end O2P.Gate
