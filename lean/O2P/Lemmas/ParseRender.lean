/-
`parse_renderL`: the block parser reads the rendering of a normal-form sequence of items, up to its terminator,
back as those items; `C05.grammar_complete` is the case of a whole file.  So the parser rejects a token stream
only if it is not the rendering of a normal-form diagram.
-/
import O2P.Model.Diagram
namespace O2P.Diagram

mutual
def render : Blk → List Tok
  | .ev n => [.ev n]
  | .brk => [.brk]
  | .detach => [.detach]
  | .loop b => .repeat_ :: render b ++ [.repeatWhile]
  | .fork op bs => .open_ op :: (if op == .xor then [.again .xor] else []) ++ renderBranches op bs ++ [.close op]
  | .seq l => renderL l
def renderL : List Blk → List Tok
  | [] => []
  | b :: bs => render b ++ renderL bs
def renderBranches (op : Op) : List Blk → List Tok
  | [] => []
  | b :: bs => render b ++ (match bs with
      | [] => []
      | _ :: _ => .again op :: renderBranches op bs)
end

mutual
/-- normal form of what the parser builds: items are events, break, detach, loops over a sequence, forks
whose (at least one) branches are sequences; a sequence is never an item itself -/
def nfItem : Blk → Bool
  | .ev _ => true
  | .brk => true
  | .detach => true
  | .loop b => nfSeq b
  | .fork _ bs => !bs.isEmpty && nfBranches bs
  | .seq _ => false
def nfSeq : Blk → Bool
  | .seq l => nfItems l
  | _ => false
def nfItems : List Blk → Bool
  | [] => true
  | b :: bs => nfItem b && nfItems bs
def nfBranches : List Blk → Bool
  | [] => true
  | b :: bs => nfSeq b && nfBranches bs
end

def stopOfTok : Tok → Option Stop
  | .again op => some (.again op)
  | .close op => some (.close op)
  | .else_ => some .else_
  | .endif => some .endif
  | .repeatWhile => some .repeatWhile
  | .groupEnd => some .groupEnd
  | .partEnd => some .partEnd
  | .enduml => some .enduml
  | _ => none

theorem parseSeq_stop {st : Tok} {stop : Stop} (h : stopOfTok st = some stop) (fuel : Nat) (rest : List Tok) :
    parseSeq (fuel + 1) (st :: rest) = .ok ([], stop, rest) := by
  cases st <;> cases h <;> rfl

theorem parseSeq_atom {b : Blk} {t : Tok} (hnf : nfItem b = true) (hb : render b = [t]) {fuel : Nat} {ts : List Tok}
    {r : List Blk} {st : Stop} {rest : List Tok} (h : parseSeq fuel ts = .ok (r, st, rest)) :
    parseSeq (fuel + 1) (t :: ts) = .ok (b :: r, st, rest) := by
  cases b with
  | seq _ => simp [nfItem] at hnf
  | loop _ | fork _ _ => simp [render] at hb
  | ev _ | brk | detach =>
    obtain rfl : _ = t := by simpa [render] using hb
    simp [parseSeq, h, bind, Except.bind, pure, Except.pure]

theorem parseSeq_repeat {fuel : Nat} {ts : List Tok} {body r : List Blk} {st : Stop} {mid rest : List Tok}
    (h1 : parseSeq fuel ts = .ok (body, .repeatWhile, mid)) (h2 : parseSeq fuel mid = .ok (r, st, rest)) :
    parseSeq (fuel + 1) (.repeat_ :: ts) = .ok (.loop (.seq body) :: r, st, rest) := by
  simp [parseSeq, h1, h2, bind, Except.bind, pure, Except.pure]

theorem parseSeq_open {fuel : Nat} {op : Op} {ts : List Tok} {bs r : List Blk} {st : Stop} {mid rest : List Tok}
    (h1 : parseSeq.parseBranches fuel op ts = .ok (bs, mid)) (h2 : parseSeq fuel mid = .ok (r, st, rest)) :
    parseSeq (fuel + 1) (.open_ op :: (if op == .xor then [.again .xor] else []) ++ ts) =
      .ok (.fork op bs :: r, st, rest) := by
  cases op <;> simp [parseSeq, h1, h2, bind, Except.bind, pure, Except.pure]

theorem parseBranches_last {fuel : Nat} {op : Op} {ts : List Tok} {b : List Blk} {rest : List Tok}
    (h : parseSeq fuel ts = .ok (b, .close op, rest)) :
    parseSeq.parseBranches (fuel + 1) op ts = .ok ([.seq b], rest) := by
  simp [parseSeq.parseBranches, h, bind, Except.bind, pure, Except.pure]

theorem parseBranches_more {fuel : Nat} {op : Op} {ts : List Tok} {b bs : List Blk} {mid rest : List Tok}
    (h1 : parseSeq fuel ts = .ok (b, .again op, mid)) (h2 : parseSeq.parseBranches fuel op mid = .ok (bs, rest)) :
    parseSeq.parseBranches (fuel + 1) op ts = .ok (.seq b :: bs, rest) := by
  simp [parseSeq.parseBranches, h1, h2, bind, Except.bind, pure, Except.pure]

theorem renderBranches_cons_cons (op : Op) (b b2 : Blk) (tl : List Blk) :
    renderBranches op (b :: b2 :: tl) = render b ++ .again op :: renderBranches op (b2 :: tl) := by
  rw [renderBranches]

mutual
/-- the fuel needed depends on the rendered block alone: the parser never looks past the terminator -/
theorem parse_renderL : ∀ (items : List Blk), nfItems items = true → ∀ (st : Tok) {stop : Stop} (rest : List Tok)
    (fuel : Nat), stopOfTok st = some stop → (renderL items).length < fuel →
    parseSeq fuel (renderL items ++ st :: rest) = .ok (items, stop, rest)
  | _, _, _, _, _, 0, _, hf => absurd hf (Nat.not_lt_zero _)
  | [], _, _, _, rest, f + 1, hst, _ => parseSeq_stop hst f rest
  | b :: tl, hnf, st, _, rest, f + 1, hst, hf => by
    simp only [nfItems, Bool.and_eq_true] at hnf
    obtain ⟨hb, htl⟩ := hnf
    have ihtl := fun hf' => parse_renderL tl htl st rest f hst hf'
    -- no case for `.seq _` or a loop over anything but a `.seq`: there `hb` reads `false = true`
    match b, hb with
    | .ev _, hb | .brk, hb | .detach, hb =>
      simp only [renderL, render, List.cons_append, List.nil_append, List.length_cons] at hf ⊢
      exact parseSeq_atom hb (by rw [render]) (ihtl (by omega))
    | .loop (.seq l), hb =>
      simp only [nfItem, nfSeq] at hb
      simp only [renderL, render, List.cons_append, List.append_assoc, List.nil_append, List.length_cons,
        List.length_append] at hf ⊢
      exact parseSeq_repeat
        (parse_renderL l hb .repeatWhile _ f rfl (by omega)) (ihtl (by omega))
    | .fork op bs, hb =>
      simp only [nfItem, Bool.and_eq_true, Bool.not_eq_true', List.isEmpty_eq_false_iff] at hb
      simp only [renderL, render, List.cons_append, List.append_assoc, List.nil_append, List.length_cons,
        List.length_append] at hf ⊢
      exact parseSeq_open
        (parse_renderBranches op bs hb.1 hb.2 _ f (by omega)) (ihtl (by omega))
theorem parse_renderBranches (op : Op) : ∀ (bs : List Blk), bs ≠ [] → nfBranches bs = true → ∀ (R : List Tok) (fuel : Nat),
    (renderBranches op bs).length + 1 < fuel →
    parseSeq.parseBranches fuel op (renderBranches op bs ++ .close op :: R) = .ok (bs, R)
  -- no case for `[]` (excluded by `bs ≠ []`) or a branch that is not a `.seq` (there `nfBranches` is `false`)
  | _, _, _, _, 0, hf => absurd hf (Nat.not_lt_zero _)
  | [.seq l], _, hnf, R, f + 1, hf => by
    simp only [nfBranches, nfSeq, Bool.and_true] at hnf
    simp only [renderBranches, render, List.append_nil] at hf ⊢
    exact parseBranches_last (parse_renderL l hnf (.close op) R f rfl (by omega))
  | .seq l :: b2 :: tl2, _, hnf, R, f + 1, hf => by
    simp only [nfBranches, nfSeq, Bool.and_eq_true] at hnf
    rw [renderBranches_cons_cons, render] at hf ⊢
    simp only [List.append_assoc, List.cons_append, List.length_append, List.length_cons] at hf ⊢
    exact parseBranches_more
      (parse_renderL l hnf.1 (.again op) _ f rfl (by omega))
      (parse_renderBranches op (b2 :: tl2) (by simp) (by simpa [nfBranches] using hnf.2) R f (by omega))
end

def renderFile (body : List Blk) : List Tok :=
  [.startuml, .partStart, .groupStart] ++ renderL body ++ [.groupEnd, .partEnd, .enduml]

theorem parseToks_frame {ts : List Tok} {body : List Blk}
    (h : parseSeq (ts.length + 1) ts = .ok (body, .groupEnd, [.partEnd, .enduml])) :
    parseToks (.startuml :: .partStart :: .groupStart :: ts) = .ok (.seq body) := by
  simp [parseToks, h, bind, Except.bind, pure, Except.pure]

end O2P.Diagram
