/-
The miner's node over plain events, `rawLeaves N R` = `+(n…, X(tau, r)…)`: the sets it produces, and the node
`inferOrNode` puts in its place, a gate tree without silent leaves.  Then the flat case, optional events only,
`+(X(tau, r)…)`: the outcomes of `postProcess`, listed (`postProcess_flat`).
-/
import O2P.Lemmas.Cover
import O2P.Lemmas.InferOrTree
import O2P.Lemmas.FilterDefunctAll
import O2P.Lemmas.Lists
namespace O2P.Gate

theorem classify_raw (N R : List String) :
    classify (N.map PTree.leaf ++ R.map fun r => PTree.node .xor [.tau, .leaf r]) =
      (R.map fun r => PTree.node .xor [.tau, .leaf r], N.map PTree.leaf) :=
  -- an event is no optional branch, `X(tau, r)` is one
  classify_append (List.forall_mem_map.mpr fun _ _ => rfl) (List.forall_mem_map.mpr fun _ _ => rfl)

theorem grandchildren_opt : ∀ (R : List String),
    (R.map fun r => PTree.node .xor [.tau, .leaf r]).flatMap grandchildrenOf = R.map PTree.leaf
  | [] => rfl
  | r :: rs => by
    simp only [List.map_cons, List.flatMap_cons, grandchildren_opt rs]
    simp [grandchildrenOf, PTree.isTau]

theorem inferOrNode_rawLeaves (F : List (List String)) (N R : List String) (hR : R ≠ []) :
    inferOrNode F (rawLeaves N R) =
      if checkIsOr F (N.map PTree.leaf) (R.map PTree.leaf) then
        (if N.length > 1 then .node .or (R.map PTree.leaf ++ [.node .and (N.map PTree.leaf)])
         else .node .or (R.map PTree.leaf ++ N.map PTree.leaf))
      else .node .and (N.map PTree.leaf ++ [.node .or (R.map PTree.leaf)]) := by
  simp only [rawLeaves, inferOrNode, classify_raw, List.isEmpty_map, List.isEmpty_iff, hR, if_false,
    grandchildren_opt, List.length_map]

theorem rawLeaves_sem {N R T s : List String} (hT : T.Sublist R) (hs : SameSet s (N ++ T)) : (rawLeaves N R).sem s := by
  -- an optional branch produces its event if selected, nothing otherwise
  have opt : ∀ {T R : List String}, T.Sublist R →
      ∃ qs, Rel2 PTree.sem (R.map fun r => PTree.node .xor [.tau, .leaf r]) qs ∧ qs.flatten = T := by
    intro T R h
    induction h with
    | slnil => exact ⟨[], .nil, rfl⟩
    | cons r _ ih =>
      obtain ⟨qs, h1, h2⟩ := ih
      exact ⟨[] :: qs, .cons (sem_xor.mpr ⟨.tau, by simp, rfl⟩) h1, by simpa using h2⟩
    | cons_cons r _ ih =>
      obtain ⟨qs, h1, h2⟩ := ih
      exact ⟨[r] :: qs, .cons (sem_xor.mpr ⟨.leaf r, by simp, .refl [r]⟩) h1, by simpa using h2⟩
  obtain ⟨qs, hq, rfl⟩ := opt hT
  refine sem_and.mpr ⟨_, (sem_leaves N).append hq, fun x => (hs x).trans ?_⟩
  rw [List.flatten_append, flatten_singletons]

theorem inferOrNode_rawLeaves_gate (F : List (List String)) (N R : List String) (hR : R ≠ []) :
    (inferOrNode F (rawLeaves N R)).toGate.isSome = true ∧ noTau (inferOrNode F (rawLeaves N R)) = true := by
  rw [inferOrNode_rawLeaves F N R hR]
  have hl : ∀ l : List String, ((l.map PTree.leaf).all fun c => c.toGate.isSome) = true ∧
      (l.map PTree.leaf).all noTau = true := fun l => by simp [PTree.toGate, noTau]
  split
  · split <;> simp [toGate_isSome, noTau, noTauL_eq, List.all_append, hl]
  · simp [toGate_isSome, noTau, noTauL_eq, List.all_append, hl]

theorem inferOrAllL_leaves (F : List (List String)) (fuel : Nat) : ∀ (l : List String),
    inferOrAllL F fuel (l.map PTree.leaf) = l.map PTree.leaf
  | [] => by simp [inferOrAllL]
  | a :: as => by
    simp only [List.map_cons, inferOrAllL, inferOrAllL_leaves F fuel as]
    cases fuel <;> simp [inferOrAll, inferOrNode]

theorem filterLoop_leaves (op : POp) (l : List String) : ∀ (fuel i : Nat),
    filterLoop fuel op i (l.map PTree.leaf) = l.map PTree.leaf
  | 0, _ => rfl
  | fuel + 1, i => by
    cases hi : (l.map PTree.leaf)[i]? with
    | none => exact filterLoop_none hi
    | some c =>
      -- the child is an event: filtered to itself, put back where it was, and no OR gate
      obtain ⟨a, -, rfl⟩ := List.mem_map.mp (List.mem_of_getElem? hi)
      have hleaf : filterDefunct fuel (PTree.leaf a) = PTree.leaf a := by cases fuel <;> rfl
      have hset : (l.map PTree.leaf).set i (.leaf a) = l.map PTree.leaf := by
        obtain ⟨_, h⟩ := List.getElem?_eq_some_iff.mp hi
        rw [← h, List.set_getElem_self]
      rw [filterLoop_some hi hleaf, hset]
      exact (if_neg (by simp [PTree.opOf])).trans (filterLoop_leaves op l fuel (i + 1))

theorem missingAndL_leaves (F : List (List String)) (fuel : Nat) : ∀ (l : List String),
    missingAndL fuel F (l.map PTree.leaf) = [l.map PTree.leaf]
  | [] => by simp [missingAndL]
  | a :: as => by cases fuel <;> simp [missingAndL, missingAnd, missingAndL_leaves F _ as]

theorem missingAnd_partTree (F : List (List String)) (fuel : Nat) (p : List String) :
    missingAnd fuel F (partTree p) = [partTree p] := by
  cases fuel with
  | zero => simp [missingAnd]
  | succ fuel =>
    obtain ⟨a, rfl, h⟩ | h := partTree_cases p <;> rw [h]
    · simp [missingAnd]
    · simp [missingAnd, missingAndL_leaves]

theorem missingAndL_parts (F : List (List String)) (fuel : Nat) : ∀ (c : List (List String)),
    missingAndL fuel F (c.map partTree) = [c.map partTree]
  | [] => by simp [missingAndL]
  | p :: ps => by simp [missingAndL, missingAnd_partTree, missingAndL_parts F fuel ps]

theorem map_partTree_singletons (l : List String) : (l.map fun a => [a]).map partTree = l.map PTree.leaf := by
  simp [partTree_singleton]

/-- one tree per outcome of the cover step: the children stay or become `cover.map partTree`, and the recursion leaves
events and groups alone -/
theorem missingAnd_orLeaves (F : List (List String)) (fuel : Nat) (R : List String) :
    missingAnd (fuel + 1) F (.node .or (R.map PTree.leaf)) =
      (weightedCover (projF F R) R).map fun r => PTree.node .or (match r with
        | some cover => cover.map partTree
        | none => R.map PTree.leaf) := by
  have hR : (R.map PTree.leaf).mapM leafLabel? = some R := mapM_leafLabel_iff.mpr rfl
  simp only [missingAnd_node_eq, beq_self_eq_true, if_true, hR]
  show ((weightedCover (projF F R) R).map fun r => match r with
      | some cover => cover.map partTree
      | none => R.map PTree.leaf).flatMap (fun cs' => (missingAndL fuel F cs').map (PTree.node .or)) = _
  rw [flatMap_map_of_fixed, List.map_map]
  · rfl
  intro cs' hcs'
  obtain ⟨r, _, rfl⟩ := List.mem_map.mp hcs'
  cases r with
  | none => exact missingAndL_leaves F fuel R
  | some cover => exact missingAndL_parts F fuel cover

theorem postProcess_flat (F : List (List String)) (R : List String) (hR : R ≠ []) :
    postProcess F (rawLeaves [] R) =
      (weightedCover (projF F R) R).map fun r => PTree.node .or (match r with
        | some cover => cover.map partTree
        | none => R.map PTree.leaf) := by
  -- the three passes with the fuels `postProcess` gives them; without a mandatory child the test says OR
  have hck : checkIsOr F [] (R.map PTree.leaf) = true := (checkIsOr_iff F _ _).mpr (Or.inl rfl)
  have h1 : inferOrAll F 50 (rawLeaves [] R) = .node .or (R.map PTree.leaf) := by
    simp [inferOrAll, inferOrNode_rawLeaves F [] R hR, hck, inferOrAllL_leaves]
  have h2 : filterDefunct 200 (.node .or (R.map PTree.leaf)) = .node .or (R.map PTree.leaf) := by
    simp only [filterDefunct, filterLoop_leaves]
  rw [postProcess, h1, h2]
  exact missingAnd_orLeaves F _ R

end O2P.Gate
