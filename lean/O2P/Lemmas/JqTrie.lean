/-
The variable trie of the jq compiler: allocation keeps parents before children (`TrieWF`), the
depth-first binding order lists parents first and reaches every variable, hence every mapping with a
part in every field and an alternative in every part (`wfMapping`) compiles to a well-formed program (`wfProgram`).
-/
import O2P.Lemmas.JqSem
namespace O2P.Jq

/-- the parent of variable `v` (variable `i+1` is entry `i`) -/
def Trie.parent (t : Trie) (v : Nat) : Nat := (t.getD (v - 1) (0, "")).1

def Trie.isChild (t : Trie) (p c : Nat) : Prop := 1 ≤ c ∧ c ≤ t.length ∧ t.parent c = p

/-- the children of `cur` as `Trie.dfs` enumerates them -/
def Trie.children (t : Trie) (cur : Nat) : List Nat :=
  (t.zipIdx.filter fun (d, _) => d.1 == cur).map fun (_, i) => i + 1

theorem Trie.dfs_succ (t : Trie) (fuel cur : Nat) :
    Trie.dfs t (fuel + 1) cur = (t.children cur).flatMap fun v => v :: Trie.dfs t fuel v := rfl

theorem Trie.parent_succ (t : Trie) {i : Nat} (h : i < t.length) : t.parent (i + 1) = t[i].1 := by
  rw [Trie.parent, Nat.add_sub_cancel, List.getD_eq_getElem?_getD, List.getElem?_eq_getElem h]; rfl

theorem Trie.mem_children {t : Trie} {cur c : Nat} : c ∈ t.children cur ↔ t.isChild cur c := by
  simp only [Trie.children, List.mem_map, List.mem_filter, List.mem_zipIdx_iff_getElem?, beq_iff_eq]
  constructor
  · rintro ⟨⟨d, i⟩, ⟨hg, hd⟩, rfl⟩
    obtain ⟨hlt, he⟩ := List.getElem?_eq_some_iff.mp hg
    exact ⟨Nat.succ_pos i, hlt, (t.parent_succ hlt).trans ((congrArg Prod.fst he).trans hd)⟩
  · rintro ⟨h1, h2, h3⟩
    obtain ⟨i, rfl⟩ := Nat.exists_eq_succ_of_ne_zero (Nat.ne_of_gt h1)
    exact ⟨(t[i], i), ⟨List.getElem?_eq_getElem h2, (t.parent_succ h2).symm.trans h3⟩, rfl⟩

/-- every element has its parent among `seen` or earlier in the list -/
def ParentsSeen (t : Trie) : List Nat → List Nat → Prop
  | _, [] => True
  | seen, v :: L => t.parent v ∈ seen ∧ ParentsSeen t (v :: seen) L

theorem ParentsSeen.append (t : Trie) : ∀ {A B seen : List Nat}, ParentsSeen t seen A →
    ParentsSeen t (A.reverse ++ seen) B → ParentsSeen t seen (A ++ B)
  | [], _, _, _, hb => hb
  | a :: A, B, seen, ha, hb =>
    ⟨ha.1, ParentsSeen.append t ha.2 (by rwa [List.reverse_cons, List.append_assoc] at hb)⟩

theorem dfs_parentsSeen (t : Trie) : ∀ (fuel cur : Nat) {seen : List Nat}, cur ∈ seen →
    ParentsSeen t seen (Trie.dfs t fuel cur)
  | 0, _, _, _ => trivial
  | fuel + 1, cur, seen, hc => by
    rw [Trie.dfs_succ]
    have hch : ∀ c ∈ t.children cur, t.parent c = cur := fun c hc => (Trie.mem_children.mp hc).2.2
    generalize t.children cur = cs at hch
    induction cs generalizing seen with
    | nil => trivial
    | cons c cs ih =>
      refine ⟨hch c List.mem_cons_self ▸ hc, ParentsSeen.append t (dfs_parentsSeen t fuel c List.mem_cons_self) ?_⟩
      exact ih _ (List.mem_append_right _ (List.mem_cons_of_mem _ hc)) fun x hx => hch x (List.mem_cons_of_mem _ hx)

/-- a list whose parents come first, bound after `pre`, is a well-formed loop order -/
theorem wfOrder_of_parentsSeen {t : Trie} (chunk : Nat → List String) {M : List Nat} :
    ∀ {L : List Nat} (pre : List Nat), pre ++ L = M → ParentsSeen t pre.reverse L →
    wfOrder pre.length (L.map fun v => (M.idxOf (t.parent v), chunk v)) = true
  | [], _, _, _ => rfl
  | v :: L, pre, hM, h => by
    have ih := wfOrder_of_parentsSeen chunk (pre ++ [v]) ((List.append_assoc pre [v] L).trans hM)
      (by rw [List.reverse_append]; exact h.2)
    rw [List.length_append, List.length_singleton] at ih
    have hv : t.parent v ∈ pre := List.mem_reverse.mp h.1
    -- `M` is opened as `pre ++ v :: L` to find the parent's index inside `pre`, and closed again for `ih`
    rw [List.map_cons, wfOrder_cons, ← hM, List.idxOf_append, if_pos hv, hM]
    exact ⟨List.idxOf_lt_length_iff.mpr hv, ih⟩

/-- allocation order: the parent of entry `i` (variable `i+1`) is a variable `≤ i` -/
def TrieWF (t : Trie) : Prop := ∀ i (h : i < t.length), (t[i]).1 ≤ i

/-- the children of the root and of every listed variable are listed with one more unit of fuel -/
theorem dfs_step (t : Trie) : ∀ (fuel cur : Nat) {w c : Nat}, w ∈ cur :: Trie.dfs t fuel cur → t.isChild w c →
    c ∈ Trie.dfs t (fuel + 1) cur
  | fuel, cur, w, c, h, hc => by
    rw [Trie.dfs_succ, List.mem_flatMap]
    rcases List.mem_cons.mp h with rfl | h
    · exact ⟨c, Trie.mem_children.mpr hc, List.mem_cons_self⟩
    · match fuel with
      | 0 => nomatch h
      | f + 1 =>
        rw [Trie.dfs_succ, List.mem_flatMap] at h
        obtain ⟨v, hv, hw⟩ := h
        exact ⟨v, hv, List.mem_cons_of_mem _ (dfs_step t f v hw hc)⟩

/-- a variable's parent has a smaller number, so fuel `w` suffices to reach variable `w` -/
theorem dfs_reaches (t : Trie) (hwf : TrieWF t) : ∀ (fuel w : Nat), w ≤ fuel → w ≤ t.length →
    w ∈ 0 :: Trie.dfs t fuel 0
  | _, 0, _, _ => List.mem_cons_self
  | fuel + 1, w + 1, hf, hl =>
    have hp : t.parent (w + 1) ≤ w := t.parent_succ hl ▸ hwf w hl
    List.mem_cons_of_mem _ (dfs_step t fuel 0
      (dfs_reaches t hwf fuel _ (Nat.le_trans hp (Nat.le_of_succ_le_succ hf)) (Nat.le_trans hp (Nat.le_of_succ_le hl)))
      ⟨Nat.succ_pos w, hl, rfl⟩)

def Trie.order (t : Trie) : List Nat := Trie.dfs t (t.length + 1) 0

/-- position in the binding order, the document first -/
def Trie.slot (t : Trie) (v : Nat) : Nat := if v == 0 then 0 else t.order.idxOf v + 1

theorem Trie.slot_eq (t : Trie) (v : Nat) : t.slot v = (0 :: t.order).idxOf v := by
  rw [Trie.slot, List.idxOf_cons, Bool.beq_comm, cond_eq_ite]

def Leaf.reslot (σ : Nat → Nat) : Leaf → Leaf
  | .plain v p => .plain (σ v) p
  | .lookup v a k vp kv => .lookup (σ v) a k vp kv

theorem Leaf.slot'_reslot (σ : Nat → Nat) (l : Leaf) : (l.reslot σ).slot' = σ l.slot' := by cases l <;> rfl

theorem mkProgram_order (t : Trie) (fields : List (String × Spec)) :
    (mkProgram t fields).order = t.order.map fun v => (t.slot (t.parent v), dotted (t.getD (v - 1) (0, "")).2) := rfl

theorem mkProgram_fields (t : Trie) (fields : List (String × Spec)) :
    (mkProgram t fields).fields =
      fields.map fun f => (f.1, { f.2 with parts := f.2.parts.map (·.map (Leaf.reslot t.slot)) }) := rfl

theorem wfFields_reslot {n m : Nat} (σ : Nat → Nat) (hσ : ∀ v, v < n → σ v < m) (fields : List (String × Spec))
    (h : wfFields n fields) :
    wfFields m (fields.map fun f => (f.1, { f.2 with parts := f.2.parts.map (·.map (Leaf.reslot σ)) })) := by
  intro f' hf'
  obtain ⟨f, hf, rfl⟩ := List.mem_map.mp hf'
  refine ⟨mt List.map_eq_nil_iff.mp (h f hf).1, fun p' hp' => ?_⟩
  obtain ⟨p, hp, rfl⟩ := List.mem_map.mp hp'
  refine ⟨mt List.map_eq_nil_iff.mp ((h f hf).2 p hp).1, fun l' hl' => ?_⟩
  obtain ⟨l, hl, rfl⟩ := List.mem_map.mp hl'
  rw [Leaf.slot'_reslot]
  exact hσ _ (((h f hf).2 p hp).2 l hl)

theorem mkProgram_wf {t : Trie} {fields : List (String × Spec)} (hwf : TrieWF t)
    (hl : wfFields (t.length + 1) fields) : wfProgram (mkProgram t fields) = true := by
  rw [wfProgram, Bool.and_eq_true, wfFieldsB_iff, mkProgram_order, mkProgram_fields, List.length_map]
  constructor
  · simp only [Trie.slot_eq]
    exact wfOrder_of_parentsSeen _ [0] rfl (dfs_parentsSeen t _ 0 List.mem_cons_self)
  · refine wfFields_reslot t.slot (fun v hv => ?_) fields hl
    rw [Trie.slot_eq]
    exact List.idxOf_lt_length_of_mem
      (dfs_reaches t hwf _ v (Nat.le_succ_of_le (Nat.le_of_lt_succ hv)) (Nat.le_of_lt_succ hv))

theorem Trie.child_le {t : Trie} {parent : Nat} {chunk : String} {v : Nat} (h : t.child parent chunk = some v) :
    v ≤ t.length := by
  obtain ⟨⟨d, i⟩, hf, rfl⟩ := Option.map_eq_some_iff.mp h
  exact (List.getElem?_eq_some_iff.mp (List.mem_zipIdx_iff_getElem?.mp (List.mem_of_find?_eq_some hf))).1

theorem TrieWF.snoc {t : Trie} (hwf : TrieWF t) {cur : Nat} (c : String) (hc : cur ≤ t.length) :
    TrieWF (t ++ [(cur, c)]) := by
  intro i hi
  rcases Nat.lt_or_ge i t.length with hlt | hge
  · rw [List.getElem_append_left hlt]; exact hwf i hlt
  · rw [List.getElem_concat_length (Nat.le_antisymm (Nat.le_of_lt_succ (by rwa [List.length_append] at hi)) hge)]
    exact Nat.le_trans hc hge

theorem Trie.walk_wf : ∀ (cs : List String) (t : Trie) (cur : Nat), TrieWF t → cur ≤ t.length →
    TrieWF (Trie.walk t cur cs).1 ∧ (Trie.walk t cur cs).2 ≤ (Trie.walk t cur cs).1.length ∧
      t.length ≤ (Trie.walk t cur cs).1.length
  | [], t, cur, hwf, hc => ⟨hwf, hc, Nat.le_refl _⟩
  | c :: cs, t, cur, hwf, hc => by
    rw [Trie.walk]
    cases hch : t.child cur c with
    | some v => exact Trie.walk_wf cs t v hwf (Trie.child_le hch)
    | none =>
      obtain ⟨h1, h2, h3⟩ := Trie.walk_wf cs (t ++ [(cur, c)]) (t.length + 1) (hwf.snoc c hc) (by simp)
      exact ⟨h1, h2, Nat.le_trans (by simp) h3⟩

theorem leafOf_slot (v : Nat) (a : AltSpec) (txt : String) : (leafOf v a txt).slot' = v := by
  unfold leafOf
  split
  · rfl
  · split <;> rfl

theorem compileAlts_cons (t : Trie) (a : AltSpec) (as : List AltSpec) :
    let w := Trie.walk t 0 (chunksOf a).1
    compileAlts t (a :: as) = ((compileAlts w.1 as).1, leafOf w.2 a (chunksOf a).2 :: (compileAlts w.1 as).2) := rfl

theorem compileParts_cons (t : Trie) (p : List AltSpec) (ps : List (List AltSpec)) :
    let t1 := (compileAlts t p).1
    compileParts t (p :: ps) = ((compileParts t1 ps).1, (compileAlts t p).2 :: (compileParts t1 ps).2) := rfl

theorem compileFields_cons (t : Trie) (n : String) (f : FieldSpecN) (fs : List (String × FieldSpecN)) :
    let t1 := (compileParts t f.parts).1
    compileFields t ((n, f) :: fs) =
      ((compileFields t1 fs).1, (n, ⟨(compileParts t f.parts).2, f.isArray⟩) :: (compileFields t1 fs).2) := rfl

theorem compileAlts_length : ∀ (alts : List AltSpec) (t : Trie), (compileAlts t alts).2.length = alts.length
  | [], _ => rfl
  | a :: as, t => by rw [compileAlts_cons, List.length_cons, List.length_cons, compileAlts_length as]

theorem compileParts_length : ∀ (parts : List (List AltSpec)) (t : Trie),
    (compileParts t parts).2.length = parts.length
  | [], _ => rfl
  | p :: ps, t => by rw [compileParts_cons, List.length_cons, List.length_cons, compileParts_length ps]

theorem compileAlts_wf : ∀ (alts : List AltSpec) (t : Trie), TrieWF t →
    TrieWF (compileAlts t alts).1 ∧ t.length ≤ (compileAlts t alts).1.length ∧
      ∀ l ∈ (compileAlts t alts).2, l.slot' ≤ (compileAlts t alts).1.length
  | [], t, hwf => ⟨hwf, Nat.le_refl _, fun _ h => nomatch h⟩
  | a :: as, t, hwf => by
    obtain ⟨w1, w2, w3⟩ := Trie.walk_wf (chunksOf a).1 t 0 hwf (Nat.zero_le _)
    obtain ⟨i1, i2, i3⟩ := compileAlts_wf as (Trie.walk t 0 (chunksOf a).1).1 w1
    rw [compileAlts_cons]
    refine ⟨i1, Nat.le_trans w3 i2, fun l hl => ?_⟩
    rcases List.mem_cons.mp hl with rfl | hl
    · rw [leafOf_slot]; exact Nat.le_trans w2 i2
    · exact i3 l hl

theorem compileParts_wf : ∀ (parts : List (List AltSpec)) (t : Trie), TrieWF t → (∀ p ∈ parts, p ≠ []) →
    TrieWF (compileParts t parts).1 ∧ t.length ≤ (compileParts t parts).1.length ∧
      ∀ p ∈ (compileParts t parts).2, p ≠ [] ∧ ∀ l ∈ p, l.slot' ≤ (compileParts t parts).1.length
  | [], t, hwf, _ => ⟨hwf, Nat.le_refl _, fun _ h => nomatch h⟩
  | p :: ps, t, hwf, hne => by
    obtain ⟨a1, a2, a3⟩ := compileAlts_wf p t hwf
    obtain ⟨i1, i2, i3⟩ := compileParts_wf ps (compileAlts t p).1 a1 fun q hq => hne q (List.mem_cons_of_mem _ hq)
    rw [compileParts_cons]
    refine ⟨i1, Nat.le_trans a2 i2, fun q hq => ?_⟩
    rcases List.mem_cons.mp hq with rfl | hq
    · exact ⟨List.length_pos_iff.mp (compileAlts_length p t ▸ List.length_pos_iff.mpr (hne p List.mem_cons_self)),
        fun l hl => Nat.le_trans (a3 l hl) i2⟩
    · exact i3 q hq

/-- every field has a part and every part an alternative (on an empty part the Python code raises; for a field
without parts it emits a query that jq refuses to compile) -/
def wfMapping (m : List (String × FieldSpecN)) : Prop :=
  ∀ f ∈ m, f.2.parts ≠ [] ∧ ∀ p ∈ f.2.parts, p ≠ []

theorem compileFields_wf : ∀ (m : List (String × FieldSpecN)) (t : Trie), TrieWF t → wfMapping m →
    TrieWF (compileFields t m).1 ∧ t.length ≤ (compileFields t m).1.length ∧
      wfFields ((compileFields t m).1.length + 1) (compileFields t m).2
  | [], t, hwf, _ => ⟨hwf, Nat.le_refl _, fun _ h => nomatch h⟩
  | (n, f) :: fs, t, hwf, hm => by
    obtain ⟨hp0, hpne⟩ := hm (n, f) List.mem_cons_self
    obtain ⟨p1, p2, p3⟩ := compileParts_wf f.parts t hwf hpne
    obtain ⟨i1, i2, i3⟩ := compileFields_wf fs (compileParts t f.parts).1 p1 fun g hg =>
      hm g (List.mem_cons_of_mem _ hg)
    rw [compileFields_cons]
    refine ⟨i1, Nat.le_trans p2 i2, fun g hg => ?_⟩
    rcases List.mem_cons.mp hg with rfl | hg
    · exact ⟨List.length_pos_iff.mp (compileParts_length f.parts t ▸ List.length_pos_iff.mpr hp0), fun p hp =>
        ⟨(p3 p hp).1, fun l hl => Nat.lt_succ_of_le (Nat.le_trans ((p3 p hp).2 l hl) i2)⟩⟩
    · exact i3 g hg

theorem TrieWF.nil : TrieWF [] := fun _ hi => nomatch hi

theorem compile_wf (m : List (String × FieldSpecN)) (h : wfMapping m) : wfProgram (compile m) = true := by
  unfold compile
  obtain ⟨w1, _, w3⟩ := compileFields_wf m [] TrieWF.nil h
  exact mkProgram_wf w1 w3

end O2P.Jq
