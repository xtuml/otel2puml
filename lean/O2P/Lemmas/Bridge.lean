/-
The executable readings of a tree agree with `PTree.sem`: a tree produces `s` exactly when one of its enumerated
outcomes (`PTree.outs`) has the members of `s`, and a tree without silent leaves, read as a gate tree, has the same
outcomes for the judge (`outcomes`, `admits`).
-/
import O2P.Lemmas.Sem
namespace O2P.Gate

mutual
def noTau : PTree → Bool
  | .leaf _ => true
  | .tau => false
  | .node _ cs => noTauL cs
def noTauL : List PTree → Bool
  | [] => true
  | c :: cs => noTau c && noTauL cs
end

theorem outsL_eq : ∀ cs, PTree.outsL cs = cs.map PTree.outs
  | [] => rfl
  | c :: cs => by simp [PTree.outsL, outsL_eq cs]

theorem noTauL_eq : ∀ cs, noTauL cs = cs.all noTau
  | [] => rfl
  | c :: cs => by simp [noTauL, noTauL_eq cs]

theorem toGateL_iff : ∀ {cs : List PTree} {gs : List Gate},
    PTree.toGateL cs = some gs ↔ Rel2 (fun c g => c.toGate = some g) cs gs
  | [], _ => by simp [PTree.toGateL, Rel2.nil_left_iff, eq_comm]
  | c :: cs, gs => by
    simp only [Rel2.cons_left_iff, ← toGateL_iff (cs := cs), PTree.toGateL]
    cases c.toGate <;> cases PTree.toGateL cs <;> simp [eq_comm]

theorem toGateL_map {α : Type} {f : α → PTree} {g : α → Gate} (l : List α) (h : ∀ a ∈ l, (f a).toGate = some (g a)) :
    PTree.toGateL (l.map f) = some (l.map g) :=
  toGateL_iff.mpr (Rel2.map_map h)

theorem toGateL_isSome : ∀ cs, (PTree.toGateL cs).isSome = cs.all fun c => c.toGate.isSome
  | [] => rfl
  | c :: cs => by
    have ih := toGateL_isSome cs
    simp only [PTree.toGateL, List.all_cons, ← ih]
    cases c.toGate <;> cases PTree.toGateL cs <;> rfl

theorem toGate_isSome (op : POp) (cs : List PTree) :
    (PTree.node op cs).toGate.isSome = (op != .other && cs.all fun c => c.toGate.isSome) := by
  cases op <;> simp [PTree.toGate, toGateL_isSome]

/-! ### `sem` is `outs` up to order and repetition -/

theorem rel2_sem_outs {cs : List PTree} (ih : ∀ c ∈ cs, ∀ s, c.sem s → ∃ o ∈ c.outs, SameSet s o)
    {ps : List (List String)} (h : Rel2 PTree.sem cs ps) :
    ∃ os, Rel2 (fun f o => o ∈ f) (cs.map PTree.outs) os ∧ SameSet ps.flatten os.flatten := by
  obtain ⟨os, h1, h2⟩ := h.exists_right (S := fun c o => o ∈ c.outs) (Q := SameSet) fun c hc p hp => ih c hc p hp
  exact ⟨os, Rel2.map_left_iff.mpr h1, flatten_sameSet h2⟩

/-- the step of `sem_iff_outs` at a parallel node; an OR node takes it over each selection of its children -/
theorem and_iff_product {cs : List PTree} (ih : ∀ c ∈ cs, ∀ s, c.sem s ↔ ∃ o ∈ c.outs, SameSet s o) (s : List String) :
    (PTree.node .and cs).sem s ↔ ∃ o ∈ productAll (cs.map PTree.outs), SameSet s o := by
  rw [sem_and]
  constructor
  · rintro ⟨ps, hr, hs⟩
    obtain ⟨os, h1, h2⟩ := rel2_sem_outs (fun c hc s => (ih c hc s).mp) hr
    obtain ⟨o, ho, hm⟩ := pick_productAll h1
    exact ⟨o, ho, (hs.trans h2).trans hm.symm⟩
  · rintro ⟨o, ho, hs⟩
    obtain ⟨os, hr, hm⟩ := mem_productAll ho
    exact ⟨os, (Rel2.map_left_iff.mp hr).imp_mem fun c hc p hp => (ih c hc p).mpr ⟨p, hp, .refl p⟩,
      hs.trans hm⟩

theorem sem_iff_outs (t : PTree) : ∀ s, t.sem s ↔ ∃ o ∈ t.outs, SameSet s o := by
  induction t using ptree_induct with
  | leaf a => intro s; simp [PTree.sem, PTree.outs]
  | tau =>
    intro s
    simp only [PTree.sem, PTree.outs, List.mem_singleton, exists_eq_left, sameSet_nil]
  | node op cs ih =>
    intro s
    cases op with
    | xor =>
      simp only [sem_xor, PTree.outs, outsL_eq, List.mem_flatten, List.mem_map]
      constructor
      · rintro ⟨c, hc, h⟩
        obtain ⟨o, ho, hs⟩ := (ih c hc s).mp h
        exact ⟨o, ⟨_, ⟨c, hc, rfl⟩, ho⟩, hs⟩
      · rintro ⟨o, ⟨_, ⟨c, hc, rfl⟩, ho⟩, hs⟩
        exact ⟨c, hc, (ih c hc s).mpr ⟨o, ho, hs⟩⟩
    | and => simpa only [PTree.outs, outsL_eq] using and_iff_product ih s
    | or =>
      -- a non-empty selection of the children on one side, of their outcome families on the other
      simp only [sem_or, PTree.outs, outsL_eq, List.mem_flatMap, mem_nonEmptySublists_iff, List.sublist_map_iff]
      show (∃ T, T.Sublist cs ∧ T ≠ [] ∧ (PTree.node .and T).sem s) ↔
        ∃ o, (∃ fs, ((∃ T : List PTree, T.Sublist cs ∧ fs = T.map PTree.outs) ∧ fs ≠ []) ∧ o ∈ productAll fs) ∧
          SameSet s o
      constructor
      · rintro ⟨T, hT, hne, h⟩
        obtain ⟨o, ho, hs⟩ := (and_iff_product (fun c hc => ih c (hT.subset hc)) s).mp h
        exact ⟨o, ⟨_, ⟨⟨T, hT, rfl⟩, by simpa using hne⟩, ho⟩, hs⟩
      · rintro ⟨o, ⟨_, ⟨⟨T, hT, rfl⟩, hne⟩, ho⟩, hs⟩
        exact ⟨T, hT, by simpa using hne, (and_iff_product (fun c hc => ih c (hT.subset hc)) s).mpr ⟨o, ho, hs⟩⟩
    | other => simp [PTree.sem, PTree.outs]

theorem outs_sem {t : PTree} {o : List String} (h : o ∈ t.outs) : t.sem o :=
  (sem_iff_outs t o).mpr ⟨o, h, .refl o⟩

theorem sem_congr (t : PTree) (o s : List String) (h : t.sem o) (hs : SameSet s o) : t.sem s := by
  obtain ⟨o', ho', h'⟩ := (sem_iff_outs t o).mp h
  exact (sem_iff_outs t s).mpr ⟨o', ho', hs.trans h'⟩

theorem produces_sem (t : PTree) (s : List String) (h : t.produces s = true) : t.sem s := by
  simp only [PTree.produces, List.any_eq_true, sameS_iff] at h
  exact (sem_iff_outs t s).mpr h

/-! `sem_congr` (for a choice) and `outs_sem` for `semAny`, `semAll`, `semSome`, so that each function defined together
with `sem` has the fact in its own terms; no proof uses these four. -/

theorem semAny_congr : ∀ (cs : List PTree) (o s : List String), PTree.semAny cs o → SameSet s o → PTree.semAny cs s :=
  fun cs => sem_congr (.node .xor cs)

theorem outsAny_sem : ∀ (cs : List PTree) (o : List String), o ∈ (PTree.outsL cs).flatten → PTree.semAny cs o :=
  fun cs _ => outs_sem (t := .node .xor cs)

theorem outsAll_sem : ∀ (cs : List PTree) (os : List (List String)),
    Rel2 (fun f o => o ∈ f) (PTree.outsL cs) os → PTree.semAll cs os := by
  intro cs os h
  rw [outsL_eq, Rel2.map_left_iff] at h
  exact semAll_iff.mpr (h.imp outs_sem)

theorem outsSome_sem : ∀ (cs : List PTree) (sub : List (List (List String))) (os : List (List String)),
    sub.Sublist (PTree.outsL cs) → Rel2 (fun f o => o ∈ f) sub os → PTree.semSome cs os := by
  intro cs sub os hs h
  obtain ⟨T, hT, rfl⟩ := List.sublist_map_iff.mp (outsL_eq cs ▸ hs)
  exact semSome_iff.mpr ⟨T, hT, (Rel2.map_left_iff.mp h).imp outs_sem⟩

/-! ### a tree without silent leaves, read as a gate tree, has the same outcomes -/

theorem outcomesL_of_children : ∀ {cs : List PTree} {gs : List Gate}, Rel2 (fun c g => c.toGate = some g) cs gs →
    (∀ c ∈ cs, ∀ g, c.toGate = some g → outcomes g = c.outs) → outcomesL gs = PTree.outsL cs
  | _, _, .nil, _ => rfl
  | _, _, .cons h hs, ih => by
    rw [outcomesL, PTree.outsL, ih _ List.mem_cons_self _ h,
      outcomesL_of_children hs fun c hc => ih c (List.mem_cons_of_mem _ hc)]

theorem outcomes_eq_outs (t : PTree) : ∀ (g : Gate), noTau t = true → t.toGate = some g → outcomes g = t.outs := by
  induction t using ptree_induct with
  | leaf a => intro g _ hg; cases hg; rfl
  | tau => intro g hn; cases hn
  | node op cs ih =>
    intro g hn hg
    rw [noTau, noTauL_eq, List.all_eq_true] at hn
    have key : ∀ gs, PTree.toGateL cs = some gs → outcomesL gs = PTree.outsL cs := fun gs hgs =>
      outcomesL_of_children (toGateL_iff.mp hgs) fun c hc g => ih c hc g (hn c hc)
    cases op
    case other => cases hg
    -- the three gates alike: the gate's children are the children read as gates
    all_goals
      obtain ⟨gs, hgs, rfl⟩ := Option.map_eq_some_iff.mp hg
      simp only [outcomes, PTree.outs, key gs hgs]

theorem outcomesL_eq_outsL : ∀ (cs : List PTree) (gs : List Gate), noTauL cs = true → PTree.toGateL cs = some gs →
    outcomesL gs = PTree.outsL cs := by
  intro cs gs hn hg
  rw [noTauL_eq, List.all_eq_true] at hn
  exact outcomesL_of_children (toGateL_iff.mp hg) fun c hc g => outcomes_eq_outs c g (hn c hc)

theorem admits_iff_sem (t : PTree) (g : Gate) (hn : noTau t = true) (hg : t.toGate = some g) (s : List String) :
    admits g s = true ↔ t.sem s := by
  rw [admits_iff, outcomes_eq_outs t g hn hg, sem_iff_outs]

theorem sem_admits (t : PTree) (g : Gate) (hn : noTau t = true) (hg : t.toGate = some g) (s : List String)
    (h : t.sem s) : admits g s = true :=
  (admits_iff_sem t g hn hg s).mpr h

/-! The children's half of `sem_admits` for `semAll` and `semSome`, with the outcomes of the gates; no proof uses the two. -/

theorem semAll_outcome : ∀ (cs : List PTree) (gs : List Gate), noTauL cs = true → PTree.toGateL cs = some gs →
    ∀ (ps : List (List String)), PTree.semAll cs ps →
      ∃ os, Rel2 (fun f o => o ∈ f) (outcomesL gs) os ∧ ∀ x, x ∈ ps.flatten ↔ x ∈ os.flatten := by
  intro cs gs hn hg ps h
  rw [outcomesL_eq_outsL cs gs hn hg, outsL_eq]
  exact rel2_sem_outs (fun c _ s => (sem_iff_outs c s).mp) (semAll_iff.mp h)

theorem semSome_outcome : ∀ (cs : List PTree) (gs : List Gate), noTauL cs = true → PTree.toGateL cs = some gs →
    ∀ (ps : List (List String)), PTree.semSome cs ps →
      ∃ sub os, sub.Sublist (outcomesL gs) ∧ Rel2 (fun f o => o ∈ f) sub os ∧
        (∀ x, x ∈ ps.flatten ↔ x ∈ os.flatten) ∧ (ps ≠ [] → sub ≠ []) := by
  intro cs gs hn hg ps h
  obtain ⟨T, hT, hr⟩ := semSome_iff.mp h
  obtain ⟨os, h1, h2⟩ := rel2_sem_outs (fun c _ s => (sem_iff_outs c s).mp) hr
  refine ⟨T.map PTree.outs, os, ?_, h1, h2, fun hne e => hne (hr.nil_iff.mp (List.map_eq_nil_iff.mp e))⟩
  rw [outcomesL_eq_outsL cs gs hn hg, outsL_eq]
  exact hT.map _

end O2P.Gate
